import GwModel.Insert
/-! Model of `executorFindInsertionPoints` (execute.go) for the way the executor and the scrubber call it: one
    starting branch.  The step's selection set enters through `PInfo` (per point of the target path: is there a
    field with this response key at this level, is its declared type a list, is it non-null), the reply through
    `Ins.J`.  A realised point keeps its parts (`key`, index, id value) instead of the rendered string; rendering
    and parsing are `Pt.renderPoint` / `Pt.parsePoint`. -/
namespace Fp
open Ins

structure PInfo where
  key : Nat
  found : Bool
  isList : Bool
  nonNull : Bool
deriving Repr, DecidableEq

inductive FErr
  | nullRequired | notList | entryNotMap | tooShort | itemNotMap | noIdObject | notObject
deriving Repr, DecidableEq

/-- a realised point -/
structure RPt where
  key : Nat
  idx : Option Nat
  id : Option J
deriving Repr

def concatM {α ε} : List (Except ε (List α)) → Except ε (List α)
  | [] => .ok []
  | x :: xs => do
    let a ← x
    let b ← concatM xs
    pure (a ++ b)

/-- entries of a list with their indices -/
def enumFrom {α} : Nat → List α → List (Nat × α)
  | _, [] => []
  | n, x :: xs => (n, x) :: enumFrom (n + 1) xs

def findPts : List PInfo → KVs → List RPt → Except FErr (List (List RPt))
  | [], _, pre => .ok [pre]
  | p :: rest, chunk, pre =>
    if !p.found then .ok [] else
    match lookup p.key chunk with
    | none => .ok []
    | some .null => if p.nonNull then .error .nullRequired else .ok []
    | some value =>
      if p.isList then
        match value with
        | .arr entries =>
          concatM ((enumFrom 0 entries).map fun (i, e) =>
            match e with
            | .null => .ok []
            | .obj ekvs =>
              match rest, lookup 0 ekvs with   -- key 0 is "id" (interned first by the driver)
              | [], none => .ok []
              | [], some id => .ok [pre ++ [⟨p.key, some i, some id⟩]]
              | _ :: _, _ => findPts rest ekvs (pre ++ [⟨p.key, some i, none⟩])
            | _ => .error .entryNotMap)
        | _ => .error .notList
      else
        let chunk' := match value with | .obj k => k | _ => chunk
        match rest with
        | [] =>
          match value with
          | .arr l =>
            match l with
            | [] => .error .tooShort
            | .obj ekvs :: _ =>
              match lookup 0 ekvs with
              | none => .error .noIdObject
              | some id => .ok [pre ++ [⟨p.key, some 0, some id⟩]]
            | _ :: _ => .error .itemNotMap
          | .obj k =>
            match lookup 0 k with
            | none => .ok []
            | some id => .ok [pre ++ [⟨p.key, none, some id⟩]]
          | _ => .error .notObject
        | _ :: _ => findPts rest chunk' (pre ++ [⟨p.key, none, none⟩])

end Fp
