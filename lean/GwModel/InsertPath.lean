import GwModel.InsertList
/-! `insert_comm`: two independent messages can be stitched in either order.
    One path step is `put key (stepOf (lookup key ·) …)` (`insertAt_cons`), so two messages through one object need
    three local laws: two steps under one key compose (`step_step`), steps under different keys commute (`step_ne`),
    and so do updates of two entries of one list (`updAt_updAt_ne`).  Where a path ends, `finish` is a `mergeK`
    (`finish_obj_eq`) and the algebra of `merge` takes over. -/
namespace Ins

/-- what one path element makes of the value currently stored under its key -/
def stepOf (cur : Option J) (idx : Option Nat) (rest : List Pt) (v : J) : Option J :=
  match idx with
  | none =>
    insertAt (childOfCur cur) rest v
  | some i =>
    match cur with
    | none => (updAt [] i fun e => insertAt e rest v).map .arr
    | some (.arr l0) => (updAt l0 i fun e => insertAt e rest v).map .arr
    | some _ => none

/-- the list a list point continues in: the stored one, a new one under a missing key, none under anything else -/
def listOfCur : Option J → Option (List J)
  | none => some []
  | some (.arr l) => some l
  | some _ => none

theorem stepOf_some (cur : Option J) (i : Nat) (rest : List Pt) (v : J) :
    stepOf cur (some i) rest v = (listOfCur cur).bind fun l => (updAt l i fun e => insertAt e rest v).map .arr := by
  cases cur with
  | none => rfl
  | some c => cases c <;> rfl

theorem insertAt_cons (kvs : KVs) (a : Pt) (rest : List Pt) (v : J) :
    insertAt (.obj kvs) (a :: rest) v =
      (stepOf (lookup a.key kvs) a.idx rest v).map fun c => .obj (put a.key c kvs) := by
  obtain ⟨f, idx⟩ := a
  cases idx with
  | none => simp only [insertAt, stepOf, childOf]
  | some i =>
    simp only [insertAt, stepOf]
    cases h : lookup f kvs with
    | none => simp [Option.map_map, Function.comp_def]
    | some c => cases c <;> simp [Option.map_map, Function.comp_def]

theorem finish_obj_eq (kvs : KVs) (v : J) : finish (.obj kvs) v = some (.obj (mergeK kvs (fieldsOf v))) := by
  cases v <;> rfl

theorem finish_nonobj_value {kvs : KVs} {v : J} (hv : ∀ inc, v ≠ .obj inc) : finish (.obj kvs) v = some (.obj kvs) := by
  cases v with
  | obj inc => exact absurd rfl (hv inc)
  | _ => rfl

/-- only an object can be inserted into -/
theorem insertAt_of_nonobj {x : J} (hx : ∀ kvs, x ≠ .obj kvs) (p : List Pt) (v : J) : insertAt x p v = none := by
  cases x with
  | obj kvs => exact absurd rfl (hx kvs)
  | _ => cases p <;> first | (cases v <;> rfl) | simp [insertAt]

theorem insertAt_nonobj {x : J} (hx : ∀ kvs, x ≠ .obj kvs) (a : Pt) (rest : List Pt) (v : J) :
    insertAt x (a :: rest) v = none := insertAt_of_nonobj hx _ v

/-- and what comes back is an object -/
theorem insertAt_obj {x v y : J} {p : List Pt} (h : insertAt x p v = some y) : ∃ kvs, y = .obj kvs := by
  cases x with
  | obj kvs =>
    cases p with
    | nil => rw [insertAt, finish_obj_eq] at h; exact ⟨_, (Option.some.inj h).symm⟩
    | cons a rest =>
      rw [insertAt_cons] at h
      obtain ⟨c, _, hc⟩ := Option.map_eq_some_iff.1 h
      exact ⟨_, hc.symm⟩
  | _ => simp [insertAt_of_nonobj] at h

theorem stepOf_notnull {cur : Option J} {idx : Option Nat} {rest : List Pt} {v c : J}
    (h : stepOf cur idx rest v = some c) : c ≠ .null := by
  cases idx with
  | none => obtain ⟨kvs, rfl⟩ := insertAt_obj (x := childOfCur cur) h; nofun
  | some i =>
    rw [stepOf_some] at h
    obtain ⟨l, _, h⟩ := Option.bind_eq_some_iff.1 h
    obtain ⟨l', _, rfl⟩ := Option.map_eq_some_iff.1 h
    nofun

theorem childOfCur_obj (k : KVs) : childOfCur (some (.obj k)) = .obj k := rfl

theorem childOfCur_some {c : J} (h : c ≠ .null) : childOfCur (some c) = c := by
  cases c <;> first | rfl | exact absurd rfl h

theorem wf_childOfCur {kvs : KVs} (hx : WF (.obj kvs)) (f : Nat) : WF (childOfCur (lookup f kvs)) := by
  cases h : lookup f kvs with
  | none => exact wf_empty
  | some c =>
    have hc := hx.vals f c (mem_of_lookup h)
    cases c <;> first | exact wf_empty | exact hc

theorem wf_listOfCur {kvs : KVs} (hx : WF (.obj kvs)) {f : Nat} {l : List J} (h : listOfCur (lookup f kvs) = some l) :
    ∀ x ∈ l, WF x := by
  cases hl : lookup f kvs with
  | none => rw [hl] at h; cases h; nofun
  | some c =>
    rw [hl] at h
    cases c <;> cases h
    exact (hx.vals f _ (mem_of_lookup hl)).elems

/-- when two messages may be applied in either order: at the place where their paths part (or where one
    ends) they do not contend for the same thing -/
def Indep : List Pt → J → List Pt → J → Prop
  | [], v, [], w => match v, w with
    | .obj _, .obj _ => Compat v w
    | _, _ => True
  | [], v, b :: _, _ => ∀ inc, v = .obj inc → lookup b.key inc = none
  | a :: _, _, [], w => ∀ inc, w = .obj inc → lookup a.key inc = none
  | a :: p, v, b :: q, w =>
    if a.key = b.key then
      match a.idx, b.idx with
      | none, none => Indep p v q w
      | some i, some j => if i = j then Indep p v q w else True
      | _, _ => False
    else True

theorem indep_nil_nil {v w : J} (h : Indep [] v [] w) : Compat (.obj (fieldsOf v)) (.obj (fieldsOf w)) := by
  cases v <;> cases w <;>
    first | exact h | exact .obj _ _ fun _ _ _ h _ => absurd h List.not_mem_nil |
      exact .obj _ _ fun _ _ _ _ h => absurd h List.not_mem_nil

theorem indep_nil_cons {v w : J} {b : Pt} {q : List Pt} (h : Indep [] v (b :: q) w) :
    lookup b.key (fieldsOf v) = none := by
  cases v <;> first | rfl | exact h _ rfl

theorem indep_cons_nil {v w : J} {a : Pt} {p : List Pt} (h : Indep (a :: p) v [] w) :
    lookup a.key (fieldsOf w) = none := by
  cases w <;> first | rfl | exact h _ rfl

/-- two messages that both go on: through different keys, through different entries of one list, or through the
    same place and independent from there -/
theorem indep_cons_cons {a b : Pt} {p q : List Pt} {v w : J} :
    Indep (a :: p) v (b :: q) w ↔
      (a.key = b.key → (a.idx = b.idx ∧ Indep p v q w) ∨ ∃ i j, a.idx = some i ∧ b.idx = some j ∧ i ≠ j) := by
  obtain ⟨f, i⟩ := a
  obtain ⟨g, j⟩ := b
  by_cases hk : f = g
  · cases i <;> cases j <;> simp only [Indep, hk, if_true, true_implies]
    · simp
    · simp
    · simp
    · rename_i x y
      by_cases e : x = y <;> simp [e]
  · simp [Indep, hk]

theorem mergeK_mergeK_comm {kvs a b : KVs} (hx : WF (.obj kvs)) (ha : WF (.obj a)) (hb : WF (.obj b))
    (hc : Compat (.obj a) (.obj b)) : mergeK (mergeK kvs a) b = mergeK (mergeK kvs b) a := by
  have := merge_merge_comm hx ha hb hc
  simpa only [merge_obj ha.sorted, merge_obj hb.sorted, fieldsOf, J.obj.injEq] using this

theorem mergeK_put_comm {f : Nat} {c : J} {kvs inc : KVs} (hk : Sorted kvs) (hi : Sorted inc)
    (hf : lookup f inc = none) : mergeK (put f c kvs) inc = put f c (mergeK kvs inc) := by
  apply sorted_ext (sorted_mergeK _ _ (sorted_put hk)) (sorted_put (sorted_mergeK _ _ hk))
  intro k
  rw [lookup_mergeK k inc (put f c kvs) hi, lookup_put k f c (mergeK kvs inc), lookup_mergeK k inc kvs hi]
  by_cases e : k = f
  · subst e; simp [hf, lookup_put]
  · simp [e, lookupD, lookup_put]

theorem finish_finish {kvs : KVs} {v w : J} (hx : WF (.obj kvs)) (hv : WF v) (hw : WF w)
    (h : Indep [] v [] w) :
    (finish (.obj kvs) v).bind (fun y => finish y w) = (finish (.obj kvs) w).bind (fun y => finish y v) := by
  simp only [finish_obj_eq, Option.bind_some]
  rw [mergeK_mergeK_comm hx (wf_fieldsOf hv) (wf_fieldsOf hw) (indep_nil_nil h)]

/-- a message for the place itself and a message for a place below it, under a key the first does not carry -/
theorem root_vs_path {kvs : KVs} {v w : J} {b : Pt} {q : List Pt} (hx : WF (.obj kvs)) (hv : WF v)
    (hf : lookup b.key (fieldsOf v) = none) :
    (finish (.obj kvs) v).bind (fun y => insertAt y (b :: q) w) =
      (insertAt (.obj kvs) (b :: q) w).bind (fun y => finish y v) := by
  have si := (wf_fieldsOf hv).sorted
  simp only [finish_obj_eq, Option.bind_some, insertAt_cons]
  rw [lookup_mergeK b.key _ kvs si, hf]
  cases stepOf (lookup b.key kvs) b.idx q w with
  | none => rfl
  | some c => simp [finish_obj_eq, mergeK_put_comm hx.sorted si hf]

theorem step_ne {kvs : KVs} {a b : Pt} (hne : a.key ≠ b.key) (p q : List Pt) (v w : J) :
    (insertAt (.obj kvs) (a :: p) v).bind (fun y => insertAt y (b :: q) w) =
      (insertAt (.obj kvs) (b :: q) w).bind (fun y => insertAt y (a :: p) v) := by
  have hne' : b.key ≠ a.key := fun e => hne e.symm
  rw [insertAt_cons, insertAt_cons]
  cases s1 : stepOf (lookup a.key kvs) a.idx p v <;> cases s2 : stepOf (lookup b.key kvs) b.idx q w <;>
    simp [insertAt_cons, lookup_put, hne, hne', s1, s2]
  exact put_comm _ _ _ _ _ hne'

/-- two messages through one key: the second step starts from what the first stored -/
theorem step_step (kvs : KVs) (f : Nat) (i j : Option Nat) (p q : List Pt) (v w : J) :
    (insertAt (.obj kvs) (⟨f, i⟩ :: p) v).bind (fun y => insertAt y (⟨f, j⟩ :: q) w) =
      ((stepOf (lookup f kvs) i p v).bind fun c => stepOf (some c) j q w).map fun c => .obj (put f c kvs) := by
  rw [insertAt_cons]
  cases stepOf (lookup f kvs) i p v with
  | none => rfl
  | some c => simp [insertAt_cons, lookup_put, put_put_same]

theorem stepOf_stepOf_child (cur : Option J) (p q : List Pt) (v w : J) :
    (stepOf cur none p v).bind (fun c => stepOf (some c) none q w) =
      (insertAt (childOfCur cur) p v).bind fun c => insertAt c q w := by
  simp only [stepOf]
  cases h : insertAt (childOfCur cur) p v with
  | none => rfl
  | some c => obtain ⟨k, rfl⟩ := insertAt_obj h; rfl

theorem stepOf_stepOf_list (cur : Option J) (i j : Nat) (p q : List Pt) (v w : J) :
    (stepOf cur (some i) p v).bind (fun c => stepOf (some c) (some j) q w) =
      (listOfCur cur).bind fun l0 =>
        ((updAt l0 i fun e => insertAt e p v).bind fun l1 => updAt l1 j fun e => insertAt e q w).map .arr := by
  simp only [stepOf_some]
  cases listOfCur cur with
  | none => rfl
  | some l0 =>
    simp only [Option.bind_some]
    cases updAt l0 i fun e => insertAt e p v <;> rfl

theorem insert_comm : ∀ (p q : List Pt) (x v w : J), WF x → WF v → WF w → Indep p v q w →
    (insertAt x p v).bind (fun y => insertAt y q w) = (insertAt x q w).bind (fun y => insertAt y p v)
  | p, q, .null, _, _, _, _, _, _ | p, q, .leaf _, _, _, _, _, _, _ | p, q, .arr _, _, _, _, _, _, _ => by
    simp [insertAt_of_nonobj]
  | [], [], .obj kvs, v, w, hx, hv, hw, h => finish_finish hx hv hw h
  | [], b :: q, .obj kvs, v, w, hx, hv, hw, h => root_vs_path hx hv (indep_nil_cons h)
  | a :: p, [], .obj kvs, v, w, hx, hv, hw, h => (root_vs_path hx hw (indep_cons_nil h)).symm
  | ⟨f, i⟩ :: p, ⟨g, j⟩ :: q, .obj kvs, v, w, hx, hv, hw, h => by
    by_cases hk : f = g
    · subst hk
      rw [step_step, step_step]
      congr 1
      rcases indep_cons_cons.1 h rfl with ⟨e, hi⟩ | ⟨a, b, ea, eb, hab⟩
      · cases (e : i = j)
        have ih := fun x hx => insert_comm p q x v w hx hv hw hi
        cases i with
        | none => rw [stepOf_stepOf_child, stepOf_stepOf_child, ih _ (wf_childOfCur hx f)]
        | some a =>
          rw [stepOf_stepOf_list, stepOf_stepOf_list]
          cases hl : listOfCur (lookup f kvs) with
          | none => rfl
          | some l0 =>
            simp only [Option.bind_some, updAt_updAt_same]
            rw [updAt_congr ih a l0 (wf_listOfCur hx hl)]
      · cases (ea : i = some a)
        cases (eb : j = some b)
        rw [stepOf_stepOf_list, stepOf_stepOf_list]
        cases listOfCur (lookup f kvs) with
        | none => rfl
        | some l0 => simp only [Option.bind_some, updAt_updAt_ne l0 hab]
    · exact step_ne hk p q v w

end Ins
