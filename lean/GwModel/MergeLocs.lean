/-! Model of `mergeDirectiveLocations` (merge.go): two definitions of one directive may differ in the TYPE-SYSTEM
    locations they allow (the merged definition allows the union) but must allow the same EXECUTABLE locations —
    where a client may write the directive in a query is not for one service to widen.

    Locations are values of any type with decidable equality; `isTS` says which are type-system locations (the code's
    `isTypeSystemDirectiveLocation`, a fixed table).  The code sorts the union; here the result is a duplicate-free
    list and the theorems speak about membership, so they hold for every order (the harness sorts both sides).

    Tied to merge.go by the L2.mergelocs correspondence (generated pairs of location lists through `gateway.New`, both
    service orders; outcome and the merged definition's locations). -/
namespace Ml

variable {α : Type} [DecidableEq α]

def addNew (acc : List α) (x : α) : List α := if x ∈ acc then acc else acc ++ [x]

/-- the union without repetitions, first occurrences first -/
def union (l1 l2 : List α) : List α := (l1 ++ l2).foldl addNew []

def execOf (isTS : α → Bool) (l : List α) : List α := l.filter (fun x => !isTS x)

def subset (a b : List α) : Bool := a.all (fun x => decide (x ∈ b))

/-- `mergeDirectiveLocations` -/
def mergeLocs (isTS : α → Bool) (l1 l2 : List α) : Option (List α) :=
  if subset (execOf isTS l1) (execOf isTS l2) && subset (execOf isTS l2) (execOf isTS l1) then some (union l1 l2) else none

theorem mem_foldl_addNew (l acc : List α) (x : α) : x ∈ l.foldl addNew acc ↔ x ∈ acc ∨ x ∈ l := by
  induction l generalizing acc with
  | nil => simp
  | cons y ys ih =>
    simp only [List.foldl_cons, ih, addNew, List.mem_cons]
    by_cases hy : y ∈ acc
    · simp only [hy, if_true]
      constructor
      · rintro (h | h)
        · exact Or.inl h
        · exact Or.inr (Or.inr h)
      · rintro (h | h | h)
        · exact Or.inl h
        · subst h; exact Or.inl hy
        · exact Or.inr h
    · simp only [hy, if_false, List.mem_append, List.mem_singleton]
      constructor
      · rintro ((h | h) | h)
        · exact Or.inl h
        · exact Or.inr (Or.inl h)
        · exact Or.inr (Or.inr h)
      · rintro (h | h | h)
        · exact Or.inl (Or.inl h)
        · exact Or.inl (Or.inr h)
        · exact Or.inr h

theorem nodup_foldl_addNew (l acc : List α) (h : acc.Nodup) : (l.foldl addNew acc).Nodup := by
  induction l generalizing acc with
  | nil => simpa
  | cons y ys ih =>
    simp only [List.foldl_cons]
    apply ih
    unfold addNew
    by_cases hy : y ∈ acc
    · simp [hy, h]
    · simp only [hy, if_false]
      rw [List.nodup_append]
      refine ⟨h, by simp, ?_⟩
      intro a ha b hb
      simp at hb; subst hb
      intro e; subst e; exact hy ha

/-- **the merged definition allows a location exactly when one of the two definitions does** -/
theorem mem_union (l1 l2 : List α) (x : α) : x ∈ union l1 l2 ↔ x ∈ l1 ∨ x ∈ l2 := by
  unfold union
  rw [mem_foldl_addNew]; simp

theorem union_nodup (l1 l2 : List α) : (union l1 l2).Nodup := nodup_foldl_addNew _ [] List.nodup_nil

theorem subset_iff (a b : List α) : subset a b = true ↔ ∀ x ∈ a, x ∈ b := by
  simp [subset, List.all_eq_true]

/-- when `mergeLocs` answers and what: the two definitions allow the same executable locations, and the answer is the
    union -/
theorem mergeLocs_eq_some (isTS : α → Bool) (l1 l2 r : List α) :
    mergeLocs isTS l1 l2 = some r ↔ (∀ x, isTS x = false → (x ∈ l1 ↔ x ∈ l2)) ∧ union l1 l2 = r := by
  have hc : (subset (execOf isTS l1) (execOf isTS l2) && subset (execOf isTS l2) (execOf isTS l1)) = true ↔
      ∀ x, isTS x = false → (x ∈ l1 ↔ x ∈ l2) := by
    simp only [Bool.and_eq_true, subset_iff, execOf, List.mem_filter, Bool.not_eq_true']
    exact ⟨fun h x hx => ⟨fun h1 => (h.1 x ⟨h1, hx⟩).1, fun h2 => (h.2 x ⟨h2, hx⟩).1⟩,
      fun h => ⟨fun x hx => ⟨(h x hx.2).1 hx.1, hx.2⟩, fun x hx => ⟨(h x hx.2).2 hx.1, hx.2⟩⟩⟩
  rw [mergeLocs, Option.ite_none_right_eq_some, hc, Option.some.injEq]

/-- **whether two definitions merge does not depend on which comes first** -/
theorem mergeLocs_isSome_comm (isTS : α → Bool) (l1 l2 : List α) :
    (mergeLocs isTS l1 l2).isSome = (mergeLocs isTS l2 l1).isSome := by
  unfold mergeLocs
  rw [Bool.and_comm]
  split <;> rfl

/-- a successful merge contains every location of both definitions (containment) and nothing else -/
theorem mergeLocs_mem (isTS : α → Bool) (l1 l2 r : List α) (h : mergeLocs isTS l1 l2 = some r) (x : α) :
    x ∈ r ↔ x ∈ l1 ∨ x ∈ l2 :=
  ((mergeLocs_eq_some ..).1 h).2 ▸ mem_union l1 l2 x

/-- **and neither does what the merged definition allows** -/
theorem mergeLocs_mem_comm (isTS : α → Bool) (l1 l2 r r' : List α)
    (h : mergeLocs isTS l1 l2 = some r) (h' : mergeLocs isTS l2 l1 = some r') (x : α) : x ∈ r ↔ x ∈ r' := by
  rw [mergeLocs_mem _ _ _ _ h, mergeLocs_mem _ _ _ _ h', Or.comm]

/-- **where a client may write the directive is what EACH service said**: the executable locations of the merged
    definition are those of the first definition, and those of the second -/
theorem mergeLocs_executable (isTS : α → Bool) (l1 l2 r : List α) (h : mergeLocs isTS l1 l2 = some r) (x : α)
    (hx : isTS x = false) : (x ∈ r ↔ x ∈ l1) ∧ (x ∈ r ↔ x ∈ l2) := by
  have h12 := ((mergeLocs_eq_some ..).1 h).1 x hx
  rw [mergeLocs_mem _ _ _ _ h, h12, or_self]
  exact ⟨Iff.rfl, Iff.rfl⟩

/-- definitions that differ in an executable location are refused -/
theorem mergeLocs_refuses (isTS : α → Bool) (l1 l2 : List α) (x : α) (hx : isTS x = false) (h1 : x ∈ l1) (h2 : x ∉ l2) :
    mergeLocs isTS l1 l2 = none :=
  Option.eq_none_iff_forall_ne_some.2 fun _ h => h2 ((((mergeLocs_eq_some ..).1 h).1 x hx).1 h1)

/-- the type-system locations of the specification (June 2018 … October 2021) -/
def specTypeSystem : List String :=
  ["SCHEMA", "SCALAR", "OBJECT", "FIELD_DEFINITION", "ARGUMENT_DEFINITION", "INTERFACE", "UNION", "ENUM", "ENUM_VALUE",
   "INPUT_OBJECT", "INPUT_FIELD_DEFINITION"]

def isTypeSystem (l : String) : Bool := specTypeSystem.contains l

example : mergeLocs (fun n : Nat => n ≥ 10) [1, 11] [12, 1] = some [1, 11, 12] ∧ mergeLocs (fun n : Nat => n ≥ 10) [1, 11] [2, 11] = none := by decide

end Ml
