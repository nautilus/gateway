import GwModel.FoldPairwise
/-! The comparisons merge.go makes between two declarations of one field, argument or directive application
    (`mergeTypesEqual`, `mergeValuesEqual`, `mergeArgumentDefinitionList`, `mergeArgumentListEqual`,
    `mergeDirectiveEqual`), over structured types and values instead of the opaque signature strings of `MergeDef`.

    Proved: the type comparison and the (deep) value comparison are exactly equality — name, nullability and list
    depth at every level; kind, raw text, child names and child values at every level — so "accepted" means
    "declared identically" and the relation is symmetric and transitive (what `MergeDef`'s characterisation and the
    order-independence of C10 assume of signatures).  Argument lists are compared by name: under distinct names the
    comparison holds in both directions or in neither. -/
namespace Ms

/-- `ast.Type`: a named type, or a list of an element type; each with its own nullability -/
inductive Ty where
  | mk (named : String) (nonNull : Bool) (elem : Option Ty)
deriving Repr

instance : Inhabited Ty := ⟨.mk "" false none⟩

/-- `ast.Value`: kind, raw text, and for lists and objects the children (name, value) -/
inductive V where
  | mk (kind raw : String) (children : List (String × V))
deriving Repr

instance : Inhabited V := ⟨.mk "" "" []⟩

mutual
/-- `mergeTypesEqual` -/
def typesEqual : Option Ty → Option Ty → Bool
  | none, none => true
  | some (.mk n1 nn1 e1), some (.mk n2 nn2 e2) => n1 == n2 && nn1 == nn2 && typesEqual e1 e2
  | _, _ => false
end

mutual
/-- `mergeValuesEqual` on two non-nil values -/
def valueEq : V → V → Bool
  | .mk k1 r1 c1, .mk k2 r2 c2 => k1 == k2 && r1 == r2 && childrenEq c1 c2
/-- same number of children, same names, equal values, position by position -/
def childrenEq : List (String × V) → List (String × V) → Bool
  | [], [] => true
  | (n1, v1) :: r1, (n2, v2) :: r2 => n1 == n2 && valueEq v1 v2 && childrenEq r1 r2
  | _, _ => false
end

/-- `mergeValuesEqual` (a missing default value equals only a missing one) -/
def valuesEqual : Option V → Option V → Bool
  | none, none => true
  | some a, some b => valueEq a b
  | _, _ => false

/-! ### the comparisons are equality -/
theorem typesEqual_iff : ∀ (a b : Option Ty), typesEqual a b = true ↔ a = b
  | none, none => by simp [typesEqual]
  | none, some _ => by simp [typesEqual]
  | some _, none => by simp [typesEqual]
  | some (.mk n1 nn1 e1), some (.mk n2 nn2 e2) => by
    simp only [typesEqual, Bool.and_eq_true, beq_iff_eq, Option.some.injEq, Ty.mk.injEq, typesEqual_iff e1 e2,
      and_assoc]
termination_by a => a
decreasing_by simp_wf; omega  -- said outright: the default search for a termination proof costs five times the theorem

mutual
theorem valueEq_iff : ∀ (a b : V), valueEq a b = true ↔ a = b
  | .mk k1 r1 c1, .mk k2 r2 c2 => by
    simp only [valueEq, Bool.and_eq_true, beq_iff_eq, V.mk.injEq, childrenEq_iff c1 c2, and_assoc]
theorem childrenEq_iff : ∀ (a b : List (String × V)), childrenEq a b = true ↔ a = b
  | [], [] => by simp [childrenEq]
  | [], _ :: _ => by simp [childrenEq]
  | _ :: _, [] => by simp [childrenEq]
  | (n1, v1) :: r1, (n2, v2) :: r2 => by
    simp only [childrenEq, Bool.and_eq_true, beq_iff_eq, List.cons.injEq, Prod.mk.injEq]
    rw [valueEq_iff v1 v2, childrenEq_iff r1 r2]
end

theorem valuesEqual_iff : ∀ (a b : Option V), valuesEqual a b = true ↔ a = b
  | none, none => by simp [valuesEqual]
  | none, some _ => by simp [valuesEqual]
  | some _, none => by simp [valuesEqual]
  | some a, some b => by simp [valuesEqual, valueEq_iff]

/-! ### argument definitions: compared by name -/
structure ArgDef where
  name : String
  type : Ty
  default : Option V
deriving Repr

/-- `ArgumentDefinitionList.ForName`: the first definition of that name -/
def forName (l : List ArgDef) (name : String) : Option ArgDef := l.find? (fun a => a.name == name)

/-- `mergeArgumentDefinitions` (types and default values must agree) -/
def argDefEq (a b : ArgDef) : Bool := typesEqual (some a.type) (some b.type) && valuesEqual a.default b.default

/-- `mergeArgumentDefinitionList`: same length, and every argument of the first list has an equal counterpart of
    the same name in the second -/
def argDefsEq (l1 l2 : List ArgDef) : Bool :=
  l1.length == l2.length && l1.all fun a => match forName l2 a.name with
    | some b => argDefEq a b
    | none => false

theorem argDefEq_iff (a b : ArgDef) : argDefEq a b = true ↔ a.type = b.type ∧ a.default = b.default := by
  simp [argDefEq, typesEqual_iff, valuesEqual_iff]

/-- with distinct names, what the first list's arguments find in the second is the arguments themselves -/
theorem forName_of_mem {l : List ArgDef} {a : ArgDef} (hn : (l.map (·.name)).Nodup) (hm : a ∈ l) :
    forName l a.name = some a :=
  (List.find?_key_eq_some_iff hn).2 ⟨hm, rfl⟩

/-- an accepted pair of argument lists declares the same arguments: every argument of the first list is, with
    equal type and default, an argument of the second -/
theorem argDefsEq_subset {l1 l2 : List ArgDef} (h : argDefsEq l1 l2 = true) :
    l1.length = l2.length ∧ ∀ a ∈ l1, ∃ b ∈ l2, b.name = a.name ∧ b.type = a.type ∧ b.default = a.default := by
  simp only [argDefsEq, Bool.and_eq_true, beq_iff_eq, List.all_eq_true] at h
  refine ⟨h.1, ?_⟩
  intro a ha
  have := h.2 a ha
  split at this
  · rename_i b hb
    have hmem := List.mem_of_find?_eq_some hb
    have hname : b.name = a.name := by
      have := List.find?_some hb
      simpa using this
    obtain ⟨ht, hd⟩ := (argDefEq_iff a b).1 this
    exact ⟨b, hmem, hname, ht.symm, hd.symm⟩
  · cases this

/-- two lists with distinct names that declare the same arguments are accepted -/
theorem argDefsEq_of_same {l1 l2 : List ArgDef} (hn2 : (l2.map (·.name)).Nodup) (hlen : l1.length = l2.length)
    (h : ∀ a ∈ l1, a ∈ l2) : argDefsEq l1 l2 = true := by
  simp only [argDefsEq, Bool.and_eq_true, beq_iff_eq, List.all_eq_true]
  refine ⟨hlen, ?_⟩
  intro a ha
  rw [forName_of_mem hn2 (h a ha)]
  exact (argDefEq_iff a a).2 ⟨rfl, rfl⟩

/-- a list is accepted against itself -/
theorem argDefsEq_refl {l : List ArgDef} (hn : (l.map (·.name)).Nodup) : argDefsEq l l = true :=
  argDefsEq_of_same hn rfl (fun _ h => h)

/-- **symmetry under distinct names**: the comparison holds in both directions or in neither (so the outcome does
    not depend on which service is listed first) -/
theorem argDefsEq_symm {l1 l2 : List ArgDef} (hn1 : (l1.map (·.name)).Nodup) (hn2 : (l2.map (·.name)).Nodup)
    (h : argDefsEq l1 l2 = true) : argDefsEq l2 l1 = true := by
  obtain ⟨hlen, hsub⟩ := argDefsEq_subset h
  -- every argument of l1 IS an argument of l2 (same name, type, default)
  have hmem : ∀ a ∈ l1, a ∈ l2 := by
    intro a ha
    obtain ⟨b, hb, h1, h2, h3⟩ := hsub a ha
    have : b = a := by
      cases a; cases b; simp_all
    exact this ▸ hb
  exact argDefsEq_of_same hn1 hlen.symm fun b =>
    ((List.Nodup.same_mem_iff (.of_map_key hn1) (.of_map_key hn2)).2 ⟨hlen, hmem⟩ b).2

end Ms
