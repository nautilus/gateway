import GwModel.FoldPairwise
/-! C03/C09/C10 prototype: pairwise merge of definitions, characterised by pairwise compatibility.
    Field/argument/default/directive detail is abstracted into an opaque signature `sig`. -/
namespace Mg

inductive Kind | scalar | object | iface | union | enum | input
deriving DecidableEq, Repr

structure Field where
  name : Nat
  sig : Nat            -- type, nullability, arguments, defaults, applied directives …
deriving DecidableEq, Repr

structure Def where
  name : Nat
  kind : Kind
  fields : List Field  -- object/interface/input fields, enum values, union members (sig = 0)
  ifaces : List Nat
deriving DecidableEq, Repr

def lookupF (fs : List Field) (n : Nat) : Option Field := fs.find? (·.name == n)

/-- object fields: keep `acc`, check clashes, append the new ones (mergeObjectTypes) -/
def mergeFieldsUnion : List Field → List Field → Option (List Field)
  | acc, [] => some acc
  | acc, f :: fs =>
    match lookupF acc f.name with
    | some g => if g.sig = f.sig then mergeFieldsUnion acc fs else none
    | none => mergeFieldsUnion (acc ++ [f]) fs

/-- other kinds: same members with the same signatures (mergeFieldList / mergeEnums / mergeUnions) -/
def sameFields (a b : List Field) : Bool :=
  a.length == b.length && a.all fun f => match lookupF b f.name with
    | some g => g.sig == f.sig
    | none => false

def mergeDef (a b : Def) : Option Def :=
  if a.kind ≠ b.kind then none            -- the kind guard (absent on the unchanged tree: D19)
  else match a.kind with
    | .object => (mergeFieldsUnion a.fields b.fields).map fun fs =>
        { a with fields := fs, ifaces := a.ifaces ++ b.ifaces.filter (· ∉ a.ifaces) }
    | .scalar => some a
    | _ => if sameFields a.fields b.fields then some a else none

def mergeGroup : List Def → Option Def
  | [] => none
  | d :: ds => ds.foldlM mergeDef d

/-! ### specification -/

def FieldsAgree (a b : List Field) : Prop :=
  ∀ f ∈ a, ∀ g ∈ b, f.name = g.name → f.sig = g.sig

def NodupNames (fs : List Field) : Prop := (fs.map (·.name)).Nodup

def SameSet (a b : List Field) : Prop := (∀ f, f ∈ a ↔ f ∈ b)

def Compat (a b : Def) : Prop :=
  a.kind = b.kind ∧
  match a.kind with
  | .object => FieldsAgree a.fields b.fields
  | .scalar => True
  | _ => SameSet a.fields b.fields

/-! ### object fields -/

theorem lookupF_some {fs : List Field} {n : Nat} {g : Field} (h : lookupF fs n = some g) :
    g ∈ fs ∧ g.name = n := by
  unfold lookupF at h
  exact ⟨List.mem_of_find?_eq_some h, by simpa using List.find?_some h⟩

theorem lookupF_none {fs : List Field} {n : Nat} (h : lookupF fs n = none) : ∀ g ∈ fs, g.name ≠ n := by
  unfold lookupF at h
  intro g hg
  have := List.find?_eq_none.1 h g hg
  simpa using this

def fresh (acc : List Field) (f : Field) : Bool := (lookupF acc f.name).isNone

theorem lookupF_append_single {acc : List Field} {f : Field} {n : Nat} (h : f.name ≠ n) :
    lookupF (acc ++ [f]) n = lookupF acc n := by
  unfold lookupF
  rw [List.find?_append]
  have : [f].find? (fun x => x.name == n) = none := by simp [h]
  rw [this]; simp

/-- closed form of the field union -/
theorem mergeFieldsUnion_ok : ∀ (b acc : List Field), NodupNames b → FieldsAgree acc b →
    mergeFieldsUnion acc b = some (acc ++ b.filter (fresh acc))
  | [], acc, _, _ => by simp [mergeFieldsUnion]
  | f :: fs, acc, hnd, hag => by
    have hnd' : NodupNames fs := (List.nodup_cons.1 hnd).2
    have hfn : ∀ g ∈ fs, g.name ≠ f.name := by
      intro g hg hgn
      exact (List.nodup_cons.1 hnd).1 (List.mem_map.2 ⟨g, hg, hgn⟩)
    have hag' : FieldsAgree acc fs := fun a ha g hg => hag a ha g (List.mem_cons_of_mem _ hg)
    simp only [mergeFieldsUnion]
    cases hl : lookupF acc f.name with
    | some g =>
      obtain ⟨hg, hgn⟩ := lookupF_some hl
      have : g.sig = f.sig := hag g hg f (List.mem_cons_self ..) hgn
      simp only [this, if_true]
      rw [mergeFieldsUnion_ok fs acc hnd' hag']
      simp [List.filter_cons, fresh, hl]
    | none =>
      simp only
      have hag2 : FieldsAgree (acc ++ [f]) fs := by
        intro a ha g hg hn
        rcases List.mem_append.1 ha with ha | ha
        · exact hag' a ha g hg hn
        · simp at ha; subst ha; exact absurd hn.symm (hfn g hg)
      rw [mergeFieldsUnion_ok fs (acc ++ [f]) hnd' hag2]
      have hfil : fs.filter (fresh (acc ++ [f])) = fs.filter (fresh acc) := by
        apply List.filter_congr
        intro g hg
        simp only [fresh]
        rw [lookupF_append_single (Ne.symm (hfn g hg))]
      rw [hfil]
      simp [List.filter_cons, fresh, hl]

theorem nodupNames_unique {acc : List Field} (h : NodupNames acc) {a g : Field}
    (ha : a ∈ acc) (hg : g ∈ acc) (hn : a.name = g.name) : a = g := by
  induction acc with
  | nil => cases ha
  | cons x xs ih =>
    have hx := List.nodup_cons.1 h
    rcases List.mem_cons.1 ha with rfl | ha' <;> rcases List.mem_cons.1 hg with rfl | hg'
    · rfl
    · exact absurd (List.mem_map.2 ⟨g, hg', hn.symm⟩) hx.1
    · exact absurd (List.mem_map.2 ⟨a, ha', hn⟩) hx.1
    · exact ih hx.2 ha' hg'

theorem nodupNames_snoc {acc : List Field} {f : Field} (h : NodupNames acc)
    (hl : lookupF acc f.name = none) : NodupNames (acc ++ [f]) := by
  unfold NodupNames at h ⊢
  rw [List.map_append]
  refine List.nodup_append.2 ⟨h, by simp, ?_⟩
  intro a ha b hb
  simp at hb; subst hb
  obtain ⟨g, hg, rfl⟩ := List.mem_map.1 ha
  exact lookupF_none hl g hg

theorem mergeFieldsUnion_agree : ∀ (b acc r : List Field),
    mergeFieldsUnion acc b = some r → NodupNames b → NodupNames acc → FieldsAgree acc b
  | [], _, _, _, _, _ => by intro a _ g hg; cases hg
  | f :: fs, acc, r, h, hnd, hna => by
    have hnd' : NodupNames fs := (List.nodup_cons.1 hnd).2
    have hfn : ∀ g ∈ fs, g.name ≠ f.name := by
      intro g hg hgn
      exact (List.nodup_cons.1 hnd).1 (List.mem_map.2 ⟨g, hg, hgn⟩)
    simp only [mergeFieldsUnion] at h
    cases hl : lookupF acc f.name with
    | some g =>
      simp only [hl] at h
      by_cases hs : g.sig = f.sig
      · simp only [hs, if_true] at h
        have ih := mergeFieldsUnion_agree fs acc r h hnd' hna
        obtain ⟨hg, hgn⟩ := lookupF_some hl
        intro a ha x hx hn
        rcases List.mem_cons.1 hx with rfl | hx
        · have : a = g := nodupNames_unique hna ha hg (by rw [hn, hgn])
          rw [this]; exact hs
        · exact ih a ha x hx hn
      · simp [hs] at h
    | none =>
      simp only [hl] at h
      have ih := mergeFieldsUnion_agree fs (acc ++ [f]) r h hnd' (nodupNames_snoc hna hl)
      intro a ha x hx hn
      rcases List.mem_cons.1 hx with rfl | hx
      · exact absurd hn (lookupF_none hl a ha)
      · exact ih a (List.mem_append.2 (Or.inl ha)) x hx hn

/-! ### groups of object definitions (field lists) -/

def foldUnion : List Field → List (List Field) → Option (List Field)
  | acc, [] => some acc
  | acc, d :: ds => (mergeFieldsUnion acc d).bind fun acc' => foldUnion acc' ds

/-- `acc` represents the definitions in `P`: same names, every field of `P` has its twin in `acc` -/
structure Represents (acc : List Field) (P : List (List Field)) : Prop where
  nodup : NodupNames acc
  from_ : ∀ f ∈ acc, ∃ d ∈ P, f ∈ d
  twin : ∀ d ∈ P, ∀ f ∈ d, ∃ g ∈ acc, g.name = f.name ∧ g.sig = f.sig

theorem FieldsAgree.symm {a b : List Field} (h : FieldsAgree a b) : FieldsAgree b a :=
  fun f hf g hg hn => (h g hg f hf hn.symm).symm

theorem represents_agree {acc : List Field} {P : List (List Field)} (hr : Represents acc P)
    (x : List Field) : FieldsAgree acc x ↔ ∀ d ∈ P, FieldsAgree d x := by
  constructor
  · intro h d hd f hf g hg hn
    obtain ⟨t, ht, htn, hts⟩ := hr.twin d hd f hf
    rw [← hts]; exact h t ht g hg (by rw [htn, hn])
  · intro h f hf g hg hn
    obtain ⟨d, hd, hfd⟩ := hr.from_ f hf
    exact h d hd f hfd g hg hn

theorem represents_step {acc : List Field} {P : List (List Field)} (hr : Represents acc P)
    {x : List Field} (hx : NodupNames x) (hag : FieldsAgree acc x) :
    Represents (acc ++ x.filter (fresh acc)) (P ++ [x]) := by
  refine ⟨?_, ?_, ?_⟩
  · unfold NodupNames
    rw [List.map_append]
    refine List.nodup_append.2 ⟨hr.nodup, ?_, ?_⟩
    · exact List.Nodup.sublist (List.Sublist.map _ List.filter_sublist) hx
    · intro a ha b hb hab
      obtain ⟨f, hf, rfl⟩ := List.mem_map.1 ha
      obtain ⟨g, hg, rfl⟩ := List.mem_map.1 hb
      have hg' := List.mem_filter.1 hg
      have : lookupF acc g.name = none := by simpa [fresh] using hg'.2
      exact lookupF_none this f hf hab
  · intro f hf
    rcases List.mem_append.1 hf with hf | hf
    · obtain ⟨d, hd, hfd⟩ := hr.from_ f hf
      exact ⟨d, List.mem_append.2 (Or.inl hd), hfd⟩
    · exact ⟨x, by simp, (List.mem_filter.1 hf).1⟩
  · intro d hd f hf
    rcases List.mem_append.1 hd with hd | hd
    · obtain ⟨g, hg, h1, h2⟩ := hr.twin d hd f hf
      exact ⟨g, List.mem_append.2 (Or.inl hg), h1, h2⟩
    · simp at hd; subst hd
      cases hl : lookupF acc f.name with
      | some g =>
        obtain ⟨hg, hgn⟩ := lookupF_some hl
        exact ⟨g, List.mem_append.2 (Or.inl hg), hgn, hag g hg f hf hgn⟩
      | none =>
        exact ⟨f, List.mem_append.2 (Or.inr (List.mem_filter.2 ⟨hf, by simp [fresh, hl]⟩)), rfl, rfl⟩

theorem represents_self {d : List Field} (h : NodupNames d) : Represents d [d] :=
  ⟨h, fun f hf => ⟨d, by simp, hf⟩, fun x hx f hf => by simp at hx; subst hx; exact ⟨f, hf, rfl, rfl⟩⟩

/-- one step of the union over a group: it succeeds iff the new definition agrees with every definition the
    accumulator represents, and then the result represents the new definition as well -/
theorem union_step {acc x : List Field} {P : List (List Field)} (hr : Represents acc P) (hx : NodupNames x) :
    ((∃ r, mergeFieldsUnion acc x = some r) ↔ ∀ p ∈ P, FieldsAgree p x) ∧
    ∀ r, mergeFieldsUnion acc x = some r → Represents r (P ++ [x]) := by
  rw [← represents_agree hr]
  by_cases hag : FieldsAgree acc x
  · rw [mergeFieldsUnion_ok x acc hx hag]
    exact ⟨⟨fun _ => hag, fun _ => ⟨_, rfl⟩⟩, fun r h => Option.some.inj h ▸ represents_step hr hx hag⟩
  · refine ⟨⟨fun ⟨r, h⟩ => ?_, fun h => absurd h hag⟩, fun r h => ?_⟩ <;>
      exact absurd (mergeFieldsUnion_agree x acc r h hx hr.nodup) hag

theorem foldUnion_eq_foldlM : ∀ (ds : List (List Field)) (acc : List Field),
    foldUnion acc ds = ds.foldlM mergeFieldsUnion acc
  | [], _ => rfl
  | d :: ds, acc => by
    rw [foldUnion, List.foldlM_cons]
    exact congrArg _ (funext (foldUnion_eq_foldlM ds))

/-- merge of a non-empty group of object definitions -/
def mergeObjGroup : List (List Field) → Option (List Field)
  | [] => none
  | d :: ds => foldUnion d ds

/-- C09 direction and C03 content for object types -/
theorem mergeObjGroup_char (d : List Field) (ds : List (List Field))
    (hnd : ∀ x ∈ d :: ds, NodupNames x) :
    ((∃ r, mergeObjGroup (d :: ds) = some r) ↔ (d :: ds).Pairwise FieldsAgree) ∧
    (∀ r, mergeObjGroup (d :: ds) = some r → Represents r (d :: ds)) := by
  have h := List.foldlM_pairwise (I := Represents) (fun hr _ hx => union_step hr hx) ds
    (represents_self (hnd d List.mem_cons_self)) (List.pairwise_singleton ..)
    fun x hx => hnd x (List.mem_cons_of_mem _ hx)
  rwa [← foldUnion_eq_foldlM] at h

/-- **C10 for object types**: success does not depend on the order of the services -/
theorem mergeObjGroup_perm {g₁ g₂ : List (List Field)} (hp : g₁.Perm g₂)
    (hnd : ∀ x ∈ g₁, NodupNames x) (hne : g₁ ≠ []) :
    (mergeObjGroup g₁).isSome = (mergeObjGroup g₂).isSome :=
  List.isSome_perm_of_pairwise FieldsAgree.symm (fun d ds h => (mergeObjGroup_char d ds h).1)
    hp hnd

#print axioms mergeObjGroup_char
#print axioms mergeObjGroup_perm
end Mg
