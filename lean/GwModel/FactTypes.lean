/-! Types of the facts that `gwfacts` extracts from the Go sources on every run (DESIGN §2.1).
    `GwModel/Gen/Facts.lean` is *generated*; the models are parameterised by these values and every
    `Props/Cxx.lean` closes with `facts_safe : Safe Gen.… := by decide +kernel`. -/
namespace Facts

/-- the three effects of `executeStep`, in source order -/
inductive Op | add | pub | spawn
deriving DecidableEq, Repr

structure ExecFacts where
  recognised : Bool
  resultCap : Nat
  errCap : Option Nat            -- none: there is no error channel
  order : List Op                -- statement order in executeStep
  collectorSelfSendsErr : Bool   -- the collector forwards step errors into a channel it alone drains
  collectors : Nat               -- goroutines receiving from resultCh
  collectorInLoop : Bool
  doneAfterInsert : Bool
  doneOnEveryPath : Bool
  errsBeforeDone : Bool          -- a step's error is recorded before the stepWg.Done() that can let Execute return
  rootAddSpawnWait : Bool
deriving DecidableEq, Repr

def ExecFacts.unrecognised : ExecFacts :=
  { recognised := false, resultCap := 0, errCap := none, order := [], collectorSelfSendsErr := true,
    collectors := 0, collectorInLoop := false, doneAfterInsert := false, doneOnEveryPath := false,
    errsBeforeDone := false, rootAddSpawnWait := false }

inductive PlanQueueKind
  | boundedSelfFedChan (cap : Nat)   -- steps travel through a bounded channel fed by its own consumer
  | localWorklist                    -- steps are kept in a local list processed synchronously
  | unrecognised
deriving DecidableEq, Repr

inductive ChooserKind | selectLocation | firstDeclared | unrecognised
deriving DecidableEq, Repr

inductive PrioSource | configured | parent | internal | unknown
deriving DecidableEq, Repr

structure SelectFacts where
  recognised : Bool
  singleShortCircuit : Bool
  order : List PrioSource
  fallbackFirst : Bool
deriving DecidableEq, Repr

structure MwFacts where
  scrubFirst : Bool
  appendInOrder : Bool
  loopUnconditional : Bool
  errorAborts : Bool
  returnsResultAndExecErr : Bool
deriving DecidableEq, Repr

/-- gateway.go, how `New` takes its options (model `Nw`) -/
structure NewOptsFacts where
  middlewaresAdd : Bool
  plannerSets : Bool
  prioritiesSet : Bool
  factorySets : Bool
  handOverAfterOptions : Bool
deriving DecidableEq, Repr

structure OpSelectFacts where
  singleUsesOnly : Bool
  emptyNameRejected : Bool
  selectsByName : Bool
  onlyIfNameMatches : Bool    -- a lone operation is used only when no name is given or the name is its own
deriving DecidableEq, Repr

inductive CacheStoreOp | loadOrStore | store | unrecognised
deriving DecidableEq, Repr
inductive EvictCmp | lastUsedBeforeNowMinusTtl | unrecognised
deriving DecidableEq, Repr

structure CacheFacts where
  storeOp : CacheStoreOp
  touchOnHit : Bool
  evict : EvictCmp
  keyIsShaOfText : Bool
  missWithoutQueryIsNotFound : Bool
  planErrorNotStored : Bool      -- a planner error returns before anything is stored
deriving DecidableEq, Repr

structure BatchFacts where
  writeByIndex : Bool
  waitsAll : Bool
  planErrAborts : Bool
  plansAllBeforeExecuting : Bool
deriving DecidableEq, Repr

inductive SwitchSubject | name | alias
deriving DecidableEq, Repr

structure IntroSwitch where
  resolver : String
  subject : SwitchSubject
  labels : List String
deriving DecidableEq, Repr

inductive ValueCompare | rawOnly | deep | unrecognised
deriving DecidableEq, Repr
inductive PossibleTypesFrom | firstDefinition | mergedDefinitions | unrecognised
deriving DecidableEq, Repr

structure MergeFacts where
  kindGuard : Bool
  nilGuards : List String
  valueCompare : ValueCompare
  possibleTypesFrom : PossibleTypesFrom
  directiveListsBothWays : Bool
deriving DecidableEq, Repr

inductive ScrubSource | firstOperation | ownOperation | unrecognised
deriving DecidableEq, Repr
inductive NaturalIdTest | aliasIsId | nameIsId | unrecognised
deriving DecidableEq, Repr

structure ScrubFacts where
  source : ScrubSource
  natural : NaturalIdTest
  deletesField : Bool
deriving DecidableEq, Repr

end Facts
