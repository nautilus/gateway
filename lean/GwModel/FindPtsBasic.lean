import GwModel.FindPts
import GwModel.InsertPath
/-! What the proofs about the insertion-point model are phrased in: following a realised path through a value
    (`walk`), where a path inserts (`sig`, `toPt`), what a reply promises (`Conf`) and a realised path delivers
    (`Good`), two paths parting at a list index (`Parts`); with the lemmas of each, and of `concatM`/`enumFrom`. -/
namespace Fp
open Ins

/-- the list an `Except` holds, `[]` for an error -/
def got {α ε} : Except ε (List α) → List α
  | .ok a => a
  | .error _ => []

/-- a successful `concatM` is a `flatMap`, and every part succeeded -/
theorem concatM_map_ok {α β ε} (f : β → Except ε (List α)) : ∀ {l : List β} {r : List α},
    concatM (l.map f) = .ok r → (∀ x ∈ l, f x = .ok (got (f x))) ∧ r = l.flatMap fun x => got (f x)
  | [], r, h => by cases h; simp
  | x :: xs, r, h => by
    simp only [List.map_cons, concatM, bind, Except.bind] at h
    cases hx : f x with
    | error e => simp [hx] at h
    | ok a =>
      cases hb : concatM (xs.map f) with
      | error e => simp [hx, hb] at h
      | ok b =>
        simp only [hx, hb, pure, Except.pure, Except.ok.injEq] at h
        obtain ⟨h1, h2⟩ := concatM_map_ok f hb
        subst h
        exact ⟨by simpa [hx, got] using h1, by simp [hx, got, h2]⟩

theorem mem_enumFrom {α} : ∀ {l : List α} {n i : Nat} {e : α}, (i, e) ∈ enumFrom n l → n ≤ i ∧ l[i - n]? = some e
  | [], _, _, _, h => by simp [enumFrom] at h
  | x :: xs, n, i, e, h => by
    simp only [enumFrom, List.mem_cons] at h
    rcases h with h | h
    · cases h; simp
    · have ⟨h1, h2⟩ := mem_enumFrom h
      refine ⟨by omega, ?_⟩
      have : i - n = (i - (n + 1)) + 1 := by omega
      rw [this]; simpa using h2

theorem enumFrom_pairwise {α} : ∀ (l : List α) (n : Nat), (enumFrom n l).Pairwise fun a b => a.1 ≠ b.1
  | [], _ => .nil
  | _ :: xs, n => List.pairwise_cons.2
      ⟨fun b hb => by have := (mem_enumFrom (e := b.2) hb).1; simp only; omega, enumFrom_pairwise xs (n + 1)⟩

/-- follow a realised path through a value -/
def walk : J → List RPt → Option J
  | x, [] => some x
  | .obj k, pt :: r =>
    match lookup pt.key k, pt.idx with
    | some v, none => walk v r
    | some (.arr l), some i =>
      match l[i]? with
      | some e => walk e r
      | none => none
    | _, _ => none
  | _, _ :: _ => none

theorem walk_append : ∀ (p q : List RPt) (x : J), walk x (p ++ q) = (walk x p).bind fun y => walk y q
  | [], q, x => by simp [walk]
  | a :: p, q, x => by
    cases x with
    | null => simp [walk]
    | leaf s => simp [walk]
    | arr l => simp [walk]
    | obj k =>
      obtain ⟨key, idx, id⟩ := a
      cases hl : lookup key k with
      | none => simp [walk, hl]
      | some v =>
        cases idx with
        | none => simp [walk, hl, walk_append p q v]
        | some i =>
          cases v with
          | null => simp [walk, hl]
          | leaf s => simp [walk, hl]
          | obj k' => simp [walk, hl]
          | arr l =>
            cases he : l[i]? with
            | none => simp [walk, hl, he]
            | some e => simp [walk, hl, he, walk_append p q e]

/-- a realised path that leads somewhere does not start at `null` -/
theorem walk_ne_null {v : J} {r : List RPt} {o : KVs} (h : walk v r = some (.obj o)) : childOfCur (some v) = v :=
  childOfCur_some fun e => by subst e; cases r <;> simp [walk] at h

/-- where a realised path inserts: keys and indices (ids are annotations) -/
def sig (path : List RPt) : List (Nat × Option Nat) := path.map fun q => (q.key, q.idx)

@[simp] theorem sig_append (a b : List RPt) : sig (a ++ b) = sig a ++ sig b := by simp [sig]
@[simp] theorem sig_cons (q : RPt) (b : List RPt) : sig (q :: b) = (q.key, q.idx) :: sig b := by simp [sig]
@[simp] theorem sig_nil : sig [] = [] := rfl

def toPt (q : RPt) : Pt := ⟨q.key, q.idx⟩

/-- the reply has, along the target path, the kinds the declared types promise at the places where the code does
    not check them itself (an object-typed point that is not the last one holds an object or null) -/
def Conf : List PInfo → KVs → Prop
  | [], _ => True
  | p :: rest, chunk =>
    match lookup p.key chunk with
    | some (.arr entries) => if p.isList then ∀ e ∈ entries, ∀ k, e = .obj k → Conf rest k else rest = []
    | some (.obj k) => if p.isList then True else Conf rest k
    | some (.leaf _) => p.isList = true ∨ rest = []
    | _ => True

/-- what a realised path promises: it extends the prefix by one point per target point, with the target's keys;
    following it through the reply reaches an object, and the id recorded in its last point is that object's id -/
def Good (infos : List PInfo) (chunk : KVs) (pre : List RPt) (path : List RPt) : Prop :=
  ∃ suf, path = pre ++ suf ∧ suf.map (·.key) = infos.map (·.key) ∧
    ∃ o, walk (.obj chunk) suf = some (.obj o) ∧
      ∀ last, suf.getLast? = some last → ∃ id, last.id = some id ∧ lookup 0 o = some id

/-- two realised paths part at a list index (same keys up to there, same indices before) -/
def Parts : List RPt → List RPt → Prop
  | a :: p, b :: q =>
    a.key = b.key ∧
      match a.idx, b.idx with
      | none, none => Parts p q
      | some i, some j => if i = j then Parts p q else True
      | _, _ => False
  | _, _ => False

theorem not_parts_nil_left {q : List RPt} : ¬ Parts [] q := fun h => by simp [Parts] at h

theorem not_parts_nil_right : ∀ {p : List RPt}, ¬ Parts p []
  | [], h | _ :: _, h => by simp [Parts] at h

theorem parts_cons_cons {a b : RPt} {p q : List RPt} : Parts (a :: p) (b :: q) ↔
    a.key = b.key ∧ ((a.idx = b.idx ∧ Parts p q) ∨ ∃ i j, a.idx = some i ∧ b.idx = some j ∧ i ≠ j) := by
  show (_ ∧ match a.idx, b.idx with
    | none, none => Parts p q
    | some i, some j => if i = j then Parts p q else True
    | _, _ => False) ↔ _
  refine and_congr_right fun _ => ?_
  cases a.idx <;> cases b.idx <;> simp
  rename_i i j
  by_cases e : i = j <;> simp [e]

theorem parts_same_prefix : ∀ (a p q : List RPt), Parts p q → Parts (a ++ p) (a ++ q)
  | [], _, _, h => h
  | _ :: a, p, q, h => parts_cons_cons.2 ⟨rfl, .inl ⟨rfl, parts_same_prefix a p q h⟩⟩

theorem parts_diff_index (key i j : Nat) (hij : i ≠ j) (id1 id2 : Option J) (p q : List RPt) :
    Parts (⟨key, some i, id1⟩ :: p) (⟨key, some j, id2⟩ :: q) :=
  parts_cons_cons.2 ⟨rfl, .inr ⟨i, j, rfl, rfl, hij⟩⟩

theorem parts_symm : ∀ {p q : List RPt}, Parts p q → Parts q p
  | _ :: _, _ :: _, h =>
    let ⟨hk, h⟩ := parts_cons_cons.1 h
    parts_cons_cons.2 ⟨hk.symm, h.imp (fun ⟨e, h⟩ => ⟨e.symm, parts_symm h⟩)
      fun ⟨i, j, hi, hj, hij⟩ => ⟨j, i, hj, hi, hij.symm⟩⟩
  | [], _, h => (not_parts_nil_left h).elim
  | _ :: _, [], h => (not_parts_nil_right h).elim

theorem parts_ne_sig : ∀ {p q : List RPt}, Parts p q → sig p ≠ sig q
  | _ :: _, _ :: _, h, e => by
    simp only [sig_cons, List.cons.injEq, Prod.mk.injEq] at e
    rcases (parts_cons_cons.1 h).2 with ⟨_, h⟩ | ⟨i, j, hi, hj, hij⟩
    · exact parts_ne_sig h e.2
    · exact hij (Option.some.inj (hi ▸ hj ▸ e.1.2))
  | [], _, h, _ => (not_parts_nil_left h).elim
  | _ :: _, [], h, _ => (not_parts_nil_right h).elim

/-- paths that part at a list index are independent as messages, whatever they carry -/
theorem indep_of_parts (v w : J) : ∀ (p q : List RPt), Parts p q → Indep (p.map toPt) v (q.map toPt) w
  | _ :: p, _ :: q, h =>
    indep_cons_cons.2 fun _ => (parts_cons_cons.1 h).2.imp_left fun ⟨e, h⟩ => ⟨e, indep_of_parts v w p q h⟩
  | [], _, h => (not_parts_nil_left h).elim
  | _ :: _, [], h => (not_parts_nil_right h).elim

/-- a family of paths that part from one another at list indices: said of the list, or of its members -/
theorem pairwise_parts_iff {paths : List (List RPt)} : paths.Pairwise Parts ↔
    (paths.map sig).Nodup ∧ ∀ p ∈ paths, ∀ q ∈ paths, sig p ≠ sig q → Parts p q := by
  refine ⟨fun h => ⟨List.pairwise_map.2 (h.imp parts_ne_sig), ?_⟩,
    fun ⟨hnd, hp⟩ => (List.pairwise_map.1 hnd).imp_of_mem fun ha hb hne => hp _ ha _ hb hne⟩
  let R (p q : List RPt) : Prop := sig p ≠ sig q → Parts p q
  exact List.Pairwise.forall_of_forall_of_flip (R := R) (fun _ _ e => absurd rfl e)
    (h.imp (S := R) fun h _ => h) (h.imp (S := flip R) fun h _ => parts_symm h)

end Fp
