import GwModel.PlanLemmas
/-! The variables a planned step uses are variables it declares (C02): every variable that occurs in an
    argument or directive of the step's selection set, or of a fragment definition left behind for the step,
    is in the step's variable set (from which the built operation's variable definitions are taken). -/
namespace Pl

mutual
/-- the variables occurring in a selection as it is printed -/
def usedSel : Sel → List String
  | .field _ _ _ gv d _ sub => gv ++ dirVars d ++ usedSels sub
  | .inline _ d sub => dirVars d ++ usedSels sub
  | .spread _ d => dirVars d
def usedSels : List Sel → List String
  | [] => []
  | s :: ss => usedSel s ++ usedSels ss
end

def FragsCovered (fs : List FragDef) (vars : List String) : Prop := ∀ f ∈ fs, ∀ v ∈ usedSels f.sub, v ∈ vars

theorem fragsCovered_mono {fs : List FragDef} {a b : List String} (hab : ∀ v ∈ a, v ∈ b) (h : FragsCovered fs a) :
    FragsCovered fs b := fun f hf v hv => hab v (h f hf v hv)

theorem fragsCovered_putFrag {d : FragDef} {vars : List String} (hd : ∀ v ∈ usedSels d.sub, v ∈ vars) :
    ∀ {fs : List FragDef}, FragsCovered fs vars → FragsCovered (putFrag d fs) vars
  | [], _ => by
    intro f hf
    simp only [putFrag, List.mem_singleton] at hf
    subst hf; exact hd
  | e :: es, h => by
    intro f hf
    simp only [putFrag] at hf
    split at hf
    · rcases List.mem_cons.1 hf with hf | hf
      · subst hf; exact hd
      · exact h f (List.mem_cons_of_mem _ hf)
    · rcases List.mem_cons.1 hf with hf | hf
      · subst hf; exact h _ (List.mem_cons_self ..)
      · exact fragsCovered_putFrag hd (fun g hg => h g (List.mem_cons_of_mem _ hg)) f hf

theorem kickOff_vars {cfg : Cfg} {lfr : Buckets FragDef} {lf : Buckets Sel} {st st1 : St}
    (h : kickOff cfg lfr lf st = .ok st1) : st1.vars = st.vars ∧ st1.frags = st.frags :=
  kickOff_induct (motive := fun _ st st1 => st1.vars = st.vars ∧ st1.frags = st.frags) (fun _ => ⟨rfl, rfl⟩)
    (fun _ _ _ _ h => h) (fun _ _ _ _ _ _ _ _ _ h => h) lf st st1 h

/-- what the induction hypothesis says about a recursive call -/
def RecVars (rec : Cfg → St → Except Err (List Sel × St)) : Prop :=
  ∀ cfg st sel st', rec cfg st = .ok (sel, st') →
    (∀ v ∈ st.vars, v ∈ st'.vars) ∧ (∀ v ∈ usedSels sel, v ∈ st'.vars) ∧
    (FragsCovered st.frags st.vars → FragsCovered st'.frags st'.vars)

/-- **The variables used by what `extractSelection` returns are in the step's variable set.** -/
theorem extract_vars (env : Env) : ∀ (fuel : Nat), RecVars (extract env fuel) := by
  refine fun fuel => extract_induct (motive := fun _ st sel st' => (∀ v ∈ st.vars, v ∈ st'.vars) ∧
    (∀ v ∈ usedSels sel, v ∈ st'.vars) ∧ (FragsCovered st.frags st.vars → FragsCovered st'.frags st'.vars)) ?_ fuel
  intro cfg st lf lfr st1 sel st' _ hk hp
  rw [← (kickOff_vars hk).1, ← (kickOff_vars hk).2]
  clear hk
  generalize current cfg lf = cur at hp
  induction hp with
  | nil => exact ⟨fun _ h => h, fun _ h => (nomatch h), id⟩
  | cons h1 _ ih =>
    obtain ⟨m2, u2, c2⟩ := ih
    -- the head: the state's variables grow, they come to hold what the new head uses, the definitions stay covered
    suffices hd : (∀ v ∈ _, v ∈ _) ∧ (∀ v ∈ usedSel _, v ∈ _) ∧ (FragsCovered _ _ → FragsCovered _ _) from
      ⟨fun v hv => m2 v (hd.1 v hv),
       fun v hv => (List.mem_append.1 hv).elim (fun hv => m2 v (hd.2.1 v hv)) (u2 v), fun hc => c2 (hd.2.2 hc)⟩
    have left : ∀ {a b c : List String} {v}, v ∈ a → v ∈ a ++ b ++ c := fun h => List.mem_append_left _ (List.mem_append_left _ h)
    cases h1 with
    | leaf =>
      refine ⟨fun v => left, fun v hv => ?_, fragsCovered_mono fun v => left⟩
      simpa only [usedSel, usedSels, List.append_nil, List.append_assoc] using List.mem_append_right _ hv
    | field _ hr =>
      obtain ⟨m, u, c⟩ := hr
      refine ⟨fun v hv => left (m v hv), fun v hv => ?_, fun hc => fragsCovered_mono (fun v => left) (c hc)⟩
      simp only [usedSel, List.mem_append] at hv ⊢
      exact hv.elim (fun h => h.elim (Or.inl ∘ Or.inr) Or.inr) (fun h => Or.inl (Or.inl (u v h)))
    | inline hr =>
      obtain ⟨m, u, c⟩ := hr
      refine ⟨fun v hv => m v (List.mem_append_left _ hv), fun v hv => ?_,
        fun hc => c (fragsCovered_mono (fun v => List.mem_append_left _) hc)⟩
      exact (List.mem_append.1 hv).elim (fun h => m v (List.mem_append_right _ h)) (u v)
    | spreadNew _ hr _ =>
      obtain ⟨m, u, c⟩ := hr
      refine ⟨fun v hv => m v (List.mem_append_left _ hv), fun v hv => m v (List.mem_append_right _ hv), fun hc f hf => ?_⟩
      rcases List.mem_append.1 hf with hf | hf
      · exact c (fragsCovered_mono (fun v => List.mem_append_left _) hc) f hf
      · rw [List.mem_singleton.1 hf]; exact u
    | spreadSame _ hr _ _ =>
      obtain ⟨m, u, c⟩ := hr
      exact ⟨fun v hv => m v (List.mem_append_left _ hv), fun v hv => m v (List.mem_append_right _ hv),
        fun hc => c (fragsCovered_mono (fun v => List.mem_append_left _) hc)⟩
    | spreadInline _ hr _ _ =>
      obtain ⟨m, u, c⟩ := hr
      refine ⟨fun v hv => m v (List.mem_append_left _ hv), fun v hv => ?_,
        fun hc => c (fragsCovered_mono (fun v => List.mem_append_left _) hc)⟩
      exact (List.mem_append.1 hv).elim (fun h => m v (List.mem_append_right _ h)) (u v)

/-- every variable occurring in the step's selection or in a fragment definition it carries is declared by
    the operation built for the step -/
def StepVarsCovered (s : Step) : Prop :=
  (∀ v ∈ usedSels s.sel, v ∈ builtVars s) ∧ ∀ f ∈ s.frags, ∀ v ∈ usedSels f.sub, v ∈ builtVars s

theorem mem_builtVars {s : Step} {v : String} (h : v ∈ s.vars) : v ∈ builtVars s := by
  unfold builtVars
  split
  · exact List.mem_eraseDups.2 h
  · exact List.mem_append.2 (Or.inl (List.mem_eraseDups.2 h))

/-- **Every variable a planned step uses is declared by the operation sent for it.** -/
theorem planOperation_vars {env : Env} {fuel : Nat} {operation : String} {sels : List Sel} {steps : List Step}
    (h : planOperation env fuel operation sels = .ok steps) : ∀ s ∈ steps, StepVarsCovered s :=
  planOperation_forall (fun _ _ _ _ _ he =>
    have ⟨_, u, c⟩ := extract_vars env fuel _ _ _ _ he
    ⟨fun v hv => mem_builtVars (u v hv), fun f hf v hv => mem_builtVars (c (fun _ hf => nomatch hf) f hf v hv)⟩) h

end Pl

namespace Pl

/-- the operation built for a dependent step declares the join variable `id`, and uses it in `node(id: $id)` -/
theorem dependent_step_declares_id (s : Step) (h : isRootType s.parentType = false) :
    "id" ∈ builtVars s ∧ ∃ sub, builtSelection s = [.field "node" "node" "(id: $id)" ["id"] [] "Node" sub] := by
  constructor
  · unfold builtVars
    simp only [h, Bool.false_or]
    split
    · rename_i hc
      exact List.mem_eraseDups.2 (by simpa using hc)
    · exact List.mem_append.2 (Or.inr (by simp))
  · unfold builtSelection
    simp [h]

/-- the operation built for a root step is the step's selection itself, with the step's variables -/
theorem root_step_sends_its_selection (s : Step) (h : isRootType s.parentType = true) :
    builtSelection s = s.sel ∧ builtVars s = s.vars.eraseDups := by
  unfold builtSelection builtVars
  simp [h]

end Pl
