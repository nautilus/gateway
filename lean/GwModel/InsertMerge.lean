import GwModel.InsertBasic
/-! Well-formedness, compatibility, the look-up characterisation of `mergeK`, and the algebra of `merge`:
    it commutes on compatible well-formed values and keeps values well-formed. -/
namespace Ins

/-- keys strictly increasing, at every level -/
inductive WF : J → Prop
  | null : WF .null
  | leaf (s : String) : WF (.leaf s)
  | arr (xs : List J) : (∀ x ∈ xs, WF x) → WF (.arr xs)
  | obj (kvs : KVs) : Sorted kvs → (∀ k v, (k, v) ∈ kvs → WF v) → WF (.obj kvs)

theorem WF.sorted {kvs : KVs} (h : WF (.obj kvs)) : Sorted kvs := by cases h; assumption
theorem WF.vals {kvs : KVs} (h : WF (.obj kvs)) : ∀ k v, (k, v) ∈ kvs → WF v := by cases h; assumption
theorem WF.elems {xs : List J} (h : WF (.arr xs)) : ∀ x ∈ xs, WF x := by cases h; assumption

theorem wf_empty : WF (.obj []) := .obj [] .nil nofun

theorem wf_lookupD {kvs : KVs} (h : WF (.obj kvs)) (k : Nat) : WF (lookupD k kvs) := by
  unfold lookupD
  cases hl : lookup k kvs with
  | none => exact .null
  | some v => exact h.vals k v (mem_of_lookup hl)

/-- two values that can both be merged into one place, in either order: equal scalars, lists of one length
    with compatible entries, objects whose common keys hold compatible values -/
inductive Compat : J → J → Prop
  | null : Compat .null .null
  | leaf (s : String) : Compat (.leaf s) (.leaf s)
  | arr (xs ys : List J) : xs.length = ys.length →
      (∀ (i : Nat) x y, xs[i]? = some x → ys[i]? = some y → Compat x y) → Compat (.arr xs) (.arr ys)
  | obj (a b : KVs) : (∀ k v w, (k, v) ∈ a → (k, w) ∈ b → Compat v w) → Compat (.obj a) (.obj b)

theorem sorted_mergeK : ∀ (inc ex : KVs), Sorted ex → Sorted (mergeK ex inc)
  | [], _, h => h
  | (_, _) :: r, _, h => sorted_mergeK r _ (sorted_put h)

theorem lookup_mergeK (k : Nat) : ∀ (inc ex : KVs), Sorted inc →
    lookup k (mergeK ex inc) = match lookup k inc with
      | none => lookup k ex
      | some w => some (merge (lookupD k ex) w)
  | [], ex, _ => rfl
  | (k0, v0) :: r, ex, hs => by
    rw [sorted_cons] at hs
    rw [mergeK, lookup_mergeK k r _ hs.2, lookup]
    by_cases e : k = k0
    · subst e
      simp [lookup_none_of_lt hs.1, lookup_put]
    · by_cases lt : k < k0
      · simp [e, lt, lookup_put, lookup_none_of_lt (fun y hy => Nat.lt_trans lt (hs.1 y hy))]
      · simp [e, lt, lookupD, lookup_put]

/-! ### what `merge` sees of the value already there

`merge x v` looks at `x` only where it has the shape of `v`; elsewhere it behaves as if `x` were absent. -/

/-- the fields a value has as an object (none if it is not one) -/
def fieldsOf : J → KVs
  | .obj kvs => kvs
  | _ => []

/-- the entries a value has as a list of length `n` (`null`s if it is not one) -/
def slots : J → Nat → List J
  | .arr ex, n => if ex.length = n then ex else List.replicate n .null
  | _, n => List.replicate n .null

theorem null_merge (w : J) : merge .null w = w := by cases w <;> rfl
theorem merge_null (x : J) : merge x .null = .null := by cases x <;> rfl
theorem merge_leaf (x : J) (s : String) : merge x (.leaf s) = .leaf s := by cases x <;> rfl

theorem mergeL_eq_zipWith : ∀ (es is : List J), mergeL es is = List.zipWith merge es is
  | [], _ => by simp [mergeL]
  | _ :: _, [] => by simp [mergeL]
  | e :: es, i :: is => by simp [mergeL, mergeL_eq_zipWith es is]

theorem length_slots (x : J) (n : Nat) : (slots x n).length = n := by
  cases x <;> simp only [slots, List.length_replicate]
  split <;> simp [*]

theorem slots_arr {l : List J} {n : Nat} (h : l.length = n) : slots (.arr l) n = l := by simp [slots, h]

theorem wf_slots {x : J} (hx : WF x) (n : Nat) : ∀ e ∈ slots x n, WF e := by
  have hr : ∀ e ∈ List.replicate n J.null, WF e := fun e he => (List.eq_of_mem_replicate he) ▸ .null
  cases x <;> simp only [slots] <;> try exact hr
  split
  · exact hx.elems
  · exact hr

theorem zipWith_null : ∀ inc : List J, List.zipWith merge (List.replicate inc.length .null) inc = inc
  | [] => rfl
  | v :: r => by simp [List.replicate_succ, null_merge, zipWith_null r]

theorem merge_arr (x : J) (inc : List J) :
    merge x (.arr inc) = .arr (List.zipWith merge (slots x inc.length) inc) := by
  cases x <;> simp only [merge, slots, zipWith_null]
  split <;> simp [mergeL_eq_zipWith, zipWith_null]

theorem wf_fieldsOf {x : J} (hx : WF x) : WF (.obj (fieldsOf x)) := by
  cases x <;> first | exact hx | exact wf_empty

theorem mergeK_nil {inc : KVs} (h : Sorted inc) : mergeK [] inc = inc := by
  apply sorted_ext (sorted_mergeK _ _ wf_empty.sorted) h
  intro k
  rw [lookup_mergeK k inc [] h]
  cases lookup k inc <;> simp [lookupD, lookup, null_merge]

theorem merge_obj {inc : KVs} (h : Sorted inc) (x : J) : merge x (.obj inc) = .obj (mergeK (fieldsOf x) inc) := by
  cases x <;> simp only [merge, fieldsOf, mergeK_nil h]

/-- the order in which two compatible values reach one place does not matter -/
theorem merge_merge_comm {x v w : J} (hx : WF x) (hv : WF v) (hw : WF w) (hc : Compat v w) :
    merge (merge x v) w = merge (merge x w) v := by
  induction hc generalizing x with
  | null => rfl
  | leaf s => rfl
  | arr xs ys hlen hel ih =>
    have e : ∀ l : List J, l.length = xs.length →
        slots (.arr (List.zipWith merge (slots x xs.length) l)) xs.length = List.zipWith merge (slots x xs.length) l :=
      fun l h => slots_arr (by simp [length_slots, h])
    rw [merge_arr, merge_arr, merge_arr, merge_arr, ← hlen, e xs rfl, e ys hlen.symm]
    congr 1
    apply List.ext_getElem?
    intro i
    simp only [List.getElem?_zipWith]
    cases hs : (slots x xs.length)[i]? <;> cases hx' : xs[i]? <;> cases hy : ys[i]? <;> try rfl
    rename_i s a b
    exact congrArg some (ih i a b hx' hy (wf_slots hx _ s (List.mem_of_getElem? hs))
      (hv.elems a (List.mem_of_getElem? hx')) (hw.elems b (List.mem_of_getElem? hy)))
  | obj a b hab ih =>
    have sa := hv.sorted
    have sb := hw.sorted
    have sx := (wf_fieldsOf hx).sorted
    rw [merge_obj sa, merge_obj sb, merge_obj sb, merge_obj sa]
    simp only [fieldsOf]
    congr 1
    apply sorted_ext (sorted_mergeK _ _ (sorted_mergeK _ _ sx)) (sorted_mergeK _ _ (sorted_mergeK _ _ sx))
    intro k
    simp only [lookup_mergeK k _ _ sa, lookup_mergeK k _ _ sb, lookupD]
    cases la : lookup k a <;> cases lb : lookup k b <;> try rfl
    rename_i v w
    exact congrArg some (ih k v w (mem_of_lookup la) (mem_of_lookup lb) (wf_lookupD (wf_fieldsOf hx) k)
      (hv.vals k v (mem_of_lookup la)) (hw.vals k w (mem_of_lookup lb)))

theorem merge_comm {v w : J} (hv : WF v) (hw : WF w) (hc : Compat v w) : merge v w = merge w v := by
  have := merge_merge_comm .null hv hw hc
  rwa [null_merge, null_merge] at this

theorem wf_put {k : Nat} {v : J} {l : KVs} (hl : WF (.obj l)) (hv : WF v) : WF (.obj (put k v l)) := by
  refine .obj _ (sorted_put hl.sorted) ?_
  intro k' u hm
  rcases mem_put hm with ⟨_, rfl⟩ | hm
  · exact hv
  · exact hl.vals k' u hm

theorem wf_merge {x v : J} (hx : WF x) (hv : WF v) : WF (merge x v) := by
  induction hv generalizing x with
  | null => rw [merge_null]; exact .null
  | leaf s => rw [merge_leaf]; exact .leaf s
  | arr inc _ ih =>
    rw [merge_arr]
    refine .arr _ fun y hy => ?_
    obtain ⟨i, hi⟩ := List.getElem?_of_mem hy
    rw [List.getElem?_zipWith] at hi
    cases hs : (slots x inc.length)[i]? <;> cases hv' : inc[i]? <;> simp only [hs, hv'] at hi <;> try cases hi
    exact ih _ (List.mem_of_getElem? hv') (wf_slots hx _ _ (List.mem_of_getElem? hs))
  | obj inc si _ ih =>
    rw [merge_obj si]
    have hf := wf_fieldsOf hx
    have ss := sorted_mergeK inc _ hf.sorted
    refine .obj _ ss fun k u hm => ?_
    have hl := lookup_of_mem ss hm
    rw [lookup_mergeK k inc _ si] at hl
    cases li : lookup k inc <;> simp only [li] at hl
    · exact hf.vals k u (mem_of_lookup hl)
    · cases hl; exact ih k _ (mem_of_lookup li) (wf_lookupD hf k)

theorem wf_mergeK {ex inc : KVs} (hx : WF (.obj ex)) (hv : WF (.obj inc)) : WF (.obj (mergeK ex inc)) := by
  have := wf_merge hx hv
  rwa [merge_obj hv.sorted] at this
end Ins
