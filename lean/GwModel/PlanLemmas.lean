import GwModel.Plan
/-! What the planner's functions do, stated once: membership in buckets, what `groupSelectionSet` bundles where
    (`GroupedAt`), and inversion / induction principles for `kickOff`, `processSel`, `processSels`, `extract` and
    `buildSteps`.  The property files reason from these and do not unfold the planner again. -/
namespace Pl

/-! ### buckets -/

section
variable {α : Type}

theorem mem_add {b : Buckets α} {l : Loc} {x : α} {l' : Loc} {ss' : List α} (h : (l', ss') ∈ b.add l x) :
    (l', ss') ∈ b ∨ (l' = l ∧ ∃ old, ss' = old ++ [x] ∧ ((l, old) ∈ b ∨ old = [])) := by
  induction b with
  | nil => simp only [Buckets.add, List.mem_singleton, Prod.mk.injEq] at h; exact Or.inr ⟨h.1, [], by simp [h.2], Or.inr rfl⟩
  | cons p rest ih =>
    obtain ⟨k, xs⟩ := p
    simp only [Buckets.add] at h
    grind

theorem get_add (b : Buckets α) (l l' : Loc) (x : α) :
    (b.add l x).get l' = if l' = l then b.get l' ++ [x] else b.get l' := by
  induction b with
  | nil => simp only [Buckets.add, Buckets.get, List.lookup]; grind
  | cons p rest ih =>
    obtain ⟨k, xs⟩ := p
    simp only [Buckets.add, Buckets.get] at ih ⊢
    grind [List.lookup]

theorem get_mem_or_nil (b : Buckets α) (l : Loc) : (l, b.get l) ∈ b ∨ b.get l = [] := by
  induction b with
  | nil => exact Or.inr rfl
  | cons p rest ih =>
    obtain ⟨k, xs⟩ := p
    simp only [Buckets.get] at ih ⊢
    grind [List.lookup]

/-- every entry bundled for a location satisfies `P` there -/
def Buckets.All (P : Loc → α → Prop) (b : Buckets α) : Prop := ∀ l ss, (l, ss) ∈ b → ∀ s ∈ ss, P l s

theorem Buckets.All.add {P : Loc → α → Prop} {b : Buckets α} {l : Loc} {x : α}
    (hb : b.All P) (hx : P l x) : (b.add l x).All P := by
  intro l' ss' hmem s hs
  rcases mem_add hmem with h | ⟨rfl, old, rfl, h3⟩
  · exact hb l' ss' h s hs
  · rcases List.mem_append.1 hs with hs | hs
    · rcases h3 with h3 | rfl
      · exact hb _ _ h3 s hs
      · cases hs
    · rw [List.mem_singleton.1 hs]; exact hx

theorem Buckets.All.get {P : Loc → α → Prop} {b : Buckets α} (hb : b.All P) {l : Loc} : ∀ s ∈ b.get l, P l s := by
  rcases get_mem_or_nil b l with h | h
  · exact hb _ _ h
  · rw [h]; exact fun _ hs => nomatch hs

/-- no bundle is empty -/
def Buckets.NoEmpty (b : Buckets α) : Prop := ∀ l ss, (l, ss) ∈ b → ss ≠ []

theorem Buckets.NoEmpty.add {b : Buckets α} (hb : b.NoEmpty) (l : Loc) (x : α) : (b.add l x).NoEmpty := by
  intro l' ss' hmem
  rcases mem_add hmem with h | ⟨_, old, rfl, _⟩
  · exact hb l' ss' h
  · exact List.append_ne_nil_of_right_ne_nil _ (List.cons_ne_nil _ _)

end

/-! ### what `groupSelectionSet` bundles where -/

variable {α : Type} {env : Env} {pl : Loc} {T : String} {sf : List FragDef} {cfg : Cfg} {lfr : Buckets FragDef}
  {localFrags : List FragDef} {rec : Cfg → St → Except Err (List Sel × St)}


/-- where the grouping loops put a direct child: a field where the chooser says, anything else with the parent -/
def PlacedAt (env : Env) (pl : Loc) (T : String) (l : Loc) : Sel → Prop
  | .field _ n _ _ _ _ _ => locate env pl T n = .ok l
  | _ => l = pl

/-- what holds of the bundles and is kept when a child is added at its place holds after `splitByLoc` -/
theorem splitByLoc_invariant {I : Buckets Sel → Prop} :
    ∀ (sels : List Sel) (b b' : Buckets Sel), splitByLoc env pl T sels b = .ok b' →
      (∀ b l, ∀ s ∈ sels, PlacedAt env pl T l s → I b → I (b.add l s)) → I b → I b'
  | [], b, b', h, _, hb => by simp only [splitByLoc] at h; cases h; exact hb
  | x :: rest, b, b', h, hs, hb => by
    have step : ∀ l, PlacedAt env pl T l x → splitByLoc env pl T rest (b.add l x) = .ok b' → I b' := fun l hl h =>
      splitByLoc_invariant rest _ b' h (fun b l s hm => hs b l s (List.mem_cons_of_mem _ hm)) (hs b l x (List.mem_cons_self ..) hl hb)
    cases x with
    | field a n g gv d t s =>
      simp only [splitByLoc] at h
      split at h
      · cases h
      · rename_i l hl; exact step l hl h
    | inline c d s => exact step pl rfl h
    | spread n d => exact step pl rfl h

/-- the part of a fragment's children that the grouping bundles for `l` -/
def PartAt (env : Env) (pl : Loc) (T : String) (sub : List Sel) (l : Loc) (ss : List Sel) : Prop :=
  ss ≠ [] ∧ ∀ s ∈ ss, s ∈ sub ∧ PlacedAt env pl T l s

theorem splitByLoc_part {sub : List Sel} {fl : Buckets Sel}
    (h : splitByLoc env pl T sub [] = .ok fl) {l : Loc} {ss : List Sel} (hm : (l, ss) ∈ fl) : PartAt env pl T sub l ss :=
  ⟨splitByLoc_invariant (I := Buckets.NoEmpty) sub [] fl h (fun _ l s _ _ hb => hb.add l s) (fun _ _ h => nomatch h) l ss hm,
   splitByLoc_invariant (I := Buckets.All fun l s => s ∈ sub ∧ PlacedAt env pl T l s) sub [] fl h
    (fun _ _ _ hs hl hb => hb.add ⟨hs, hl⟩) (fun _ _ h => nomatch h) l ss hm⟩

/-- `x` is bundled for `l` when `sels` is grouped: a field where the chooser puts it; a spread, or what is left of an
    inline fragment, wherever a part of the fragment's children goes -/
inductive GroupedAt (env : Env) (pl : Loc) (T : String) (sf : List FragDef) (sels : List Sel) (l : Loc) : Sel → Prop
  | field {a n g gv d t s} : .field a n g gv d t s ∈ sels → locate env pl T n = .ok l →
      GroupedAt env pl T sf sels l (.field a n g gv d t s)
  | spread {name dirs defn ss} : .spread name dirs ∈ sels →
      (match findFrag sf name with | some d => some d | none => findFrag env.planFrags name) = some defn →
      PartAt env pl defn.cond defn.sub l ss → GroupedAt env pl T sf sels l (.spread name dirs)
  | inline {c d sub ss} : .inline c d sub ∈ sels → PartAt env pl (if c == "" then T else c) sub l ss →
      GroupedAt env pl T sf sels l (.inline c d ss)

theorem GroupedAt.mono {a b : List Sel} {l : Loc} {x : Sel}
    (h : GroupedAt env pl T sf a l x) (hab : ∀ s ∈ a, s ∈ b) : GroupedAt env pl T sf b l x := by
  cases h with
  | field h1 h2 => exact .field (hab _ h1) h2
  | spread h1 h2 h3 => exact .spread (hab _ h1) h2 h3
  | inline h1 h2 => exact .inline (hab _ h1) h2

theorem foldl_invariant {β γ : Type} {f : β → γ → β} {J : β → Prop} :
    ∀ (l : List γ) (b : β), J b → (∀ b, ∀ x ∈ l, J b → J (f b x)) → J (l.foldl f b)
  | [], _, hb, _ => hb
  | x :: l, b, hb, hf =>
    foldl_invariant l _ (hf b x (List.mem_cons_self ..) hb) fun b y hy => hf b y (List.mem_cons_of_mem _ hy)

/-- induction over a successful run of `groupSelectionSet`: a field is added where the chooser says; a spread, or an
    inline fragment cut down to the part, is added for every part its children are split into -/
theorem group_induct {sf : List FragDef}
    {motive : List Sel → Buckets Sel × Buckets FragDef → Buckets Sel × Buckets FragDef → Prop}
    (nil : ∀ acc, motive [] acc acc)
    (field : ∀ a n g gv d t s rest lf lfr res l, locate env pl T n = .ok l →
      motive rest (lf.add l (.field a n g gv d t s), lfr) res → motive (.field a n g gv d t s :: rest) (lf, lfr) res)
    (spread : ∀ name dirs rest acc res defn fl,
      (match findFrag sf name with | some d => some d | none => findFrag env.planFrags name) = some defn →
      splitByLoc env pl defn.cond defn.sub [] = .ok fl →
      motive rest (fl.foldl (fun acc p => (acc.1.add p.1 (.spread name dirs), acc.2.add p.1 ⟨name, defn.cond, defn.dirs, p.2⟩)) acc) res →
      motive (.spread name dirs :: rest) acc res)
    (inline : ∀ c d sub rest lf lfr res fl, splitByLoc env pl (if c == "" then T else c) sub [] = .ok fl →
      motive rest (fl.foldl (fun acc p => acc.add p.1 (.inline c d p.2)) lf, lfr) res → motive (.inline c d sub :: rest) (lf, lfr) res) :
    ∀ (sels : List Sel) (acc res : Buckets Sel × Buckets FragDef), group env pl T sf sels acc = .ok res → motive sels acc res
  | [], acc, res, h => by simp only [group] at h; cases h; exact nil acc
  | .field a n g gv d t s :: rest, (lf, lfr), res, h => by
    simp only [group] at h
    split at h
    · cases h
    · rename_i l hl
      exact field a n g gv d t s rest lf lfr res l hl (group_induct nil field spread inline rest _ res h)
  | .spread name dirs :: rest, (lf, lfr), res, h => by
    simp only [group] at h
    split at h
    · cases h
    · rename_i defn hd
      split at h
      · cases h
      · rename_i fl hfl
        exact spread name dirs rest (lf, lfr) res defn fl hd hfl (group_induct nil field spread inline rest _ res h)
  | .inline c d sub :: rest, (lf, lfr), res, h => by
    simp only [group] at h
    split at h
    · cases h
    · rename_i fl hfl
      exact inline c d sub rest lf lfr res fl hfl (group_induct nil field spread inline rest _ res h)

/-- **what holds of the bundles and is kept whenever a selection is added where it is `GroupedAt` holds after
    `groupSelectionSet`** -/
theorem group_invariant {I : Buckets Sel → Prop}
    {sels : List Sel} {acc res : Buckets Sel × Buckets FragDef} (h : group env pl T sf sels acc = .ok res) :
    (∀ b l x, GroupedAt env pl T sf sels l x → I b → I (b.add l x)) → I acc.1 → I res.1 := by
  have tail : ∀ {x : Sel} {rest : List Sel}, (∀ b l y, GroupedAt env pl T sf (x :: rest) l y → I b → I (b.add l y)) →
      ∀ b l y, GroupedAt env pl T sf rest l y → I b → I (b.add l y) :=
    fun hp b l y hy => hp b l y (hy.mono fun _ h => List.mem_cons_of_mem _ h)
  refine group_induct (motive := fun sels acc res =>
    (∀ b l x, GroupedAt env pl T sf sels l x → I b → I (b.add l x)) → I acc.1 → I res.1) (fun _ _ ha => ha) ?_ ?_ ?_ sels acc res h
  · exact fun _ _ _ _ _ _ _ _ _ _ _ l hl ih hp ha => ih (tail hp) (hp _ _ _ (.field (List.mem_cons_self ..) hl) ha)
  · exact fun _ _ _ acc _ defn fl hd hfl ih hp ha => ih (tail hp) (foldl_invariant (J := fun acc => I acc.1) fl acc ha
      fun _ p hm hb => hp _ _ _ (.spread (List.mem_cons_self ..) hd (splitByLoc_part hfl hm)) hb)
  · exact fun _ _ _ _ lf _ _ fl hfl ih hp ha => ih (tail hp) (foldl_invariant fl lf ha
      fun _ p hm hb => hp _ _ _ (.inline (List.mem_cons_self ..) (splitByLoc_part hfl hm)) hb)

/-- **what is in the bundles**: everything `groupSelectionSet` bundles for `l` is `GroupedAt` `l`, and no bundle is empty -/
theorem group_grouped {sels : List Sel}
    {lf : Buckets Sel} (h : group env pl T sf sels ([], []) = .ok (lf, lfr)) :
    lf.All (GroupedAt env pl T sf sels) :=
  group_invariant h (fun _ _ _ hx hb => hb.add hx) (fun _ _ h => nomatch h)

theorem group_noEmpty {sels : List Sel}
    {lf : Buckets Sel} (h : group env pl T sf sels ([], []) = .ok (lf, lfr)) : lf.NoEmpty :=
  group_invariant h (fun _ l x _ hb => hb.add l x) (fun _ _ h => nomatch h)

theorem mem_get_add_old {b : Buckets α} {l l' : Loc} {x y : α} (h : y ∈ b.get l') : y ∈ (b.add l x).get l' := by
  rw [get_add]; split
  · exact List.mem_append_left _ h
  · exact h

theorem mem_get_add_new (b : Buckets α) (l : Loc) (x : α) : x ∈ (b.add l x).get l := by
  rw [get_add, if_pos rfl]; exact List.mem_append_right _ (List.mem_singleton.2 rfl)

/-- nothing is lost: what was bundled stays, and every child goes to the bundle of its place -/
theorem splitByLoc_complete :
    ∀ (sels : List Sel) (b b' : Buckets Sel), splitByLoc env pl T sels b = .ok b' →
      (∀ l, ∀ y ∈ b.get l, y ∈ b'.get l) ∧ ∀ s ∈ sels, ∃ l, PlacedAt env pl T l s ∧ s ∈ b'.get l
  | [], b, b', h => by simp only [splitByLoc] at h; cases h; exact ⟨fun _ _ h => h, fun _ h => nomatch h⟩
  | x :: rest, b, b', h => by
    have step : ∀ l, PlacedAt env pl T l x → splitByLoc env pl T rest (b.add l x) = .ok b' →
        (∀ l, ∀ y ∈ b.get l, y ∈ b'.get l) ∧ ∀ s ∈ x :: rest, ∃ l, PlacedAt env pl T l s ∧ s ∈ b'.get l := by
      intro l hl h
      have ⟨old, new⟩ := splitByLoc_complete rest _ b' h
      refine ⟨fun l' y hy => old l' y (mem_get_add_old hy), fun s hs => ?_⟩
      rcases List.mem_cons.1 hs with rfl | hs
      · exact ⟨l, hl, old l _ (mem_get_add_new b l _)⟩
      · exact new s hs
    cases x with
    | field a n g gv d t s =>
      simp only [splitByLoc] at h
      split at h
      · cases h
      · rename_i l hl; exact step l hl h
    | inline c d s => exact step pl rfl h
    | spread n d => exact step pl rfl h

/-- **nothing is lost by `groupSelectionSet`**: what was bundled stays; a field goes to the bundle of its place; every
    child of an inline fragment goes, inside a copy of the fragment, to the bundle of the child's place -/
theorem group_complete :
    ∀ (sels : List Sel) (acc res : Buckets Sel × Buckets FragDef), group env pl T sf sels acc = .ok res →
      (∀ l, ∀ y ∈ acc.1.get l, y ∈ res.1.get l) ∧
      (∀ a n g gv d t s, .field a n g gv d t s ∈ sels → ∃ l, locate env pl T n = .ok l ∧ .field a n g gv d t s ∈ res.1.get l) ∧
      (∀ c d sub, .inline c d sub ∈ sels → ∀ s ∈ sub, ∃ l ss, PlacedAt env pl (if c == "" then T else c) l s ∧ s ∈ ss ∧
        .inline c d ss ∈ res.1.get l) := by
  -- the head is no field / no inline fragment, so the one asked about is in the rest
  have skip : ∀ {x y : Sel} {rest : List Sel}, y ∈ x :: rest → x ≠ y → y ∈ rest := fun hm hne =>
    (List.mem_cons.1 hm).resolve_left fun h => hne h.symm
  refine group_induct (fun _ => ⟨fun _ _ h => h, fun _ _ _ _ _ _ _ h => (nomatch h), fun _ _ _ h => (nomatch h)⟩) ?_ ?_ ?_
  · intro a n g gv d t s rest lf lfr res l hl ⟨old, fs, ins⟩
    refine ⟨fun l' y hy => old l' y (mem_get_add_old hy), fun a' n' g' gv' d' t' s' hm => ?_,
      fun c d sub hm => ins c d sub (skip hm fun h => nomatch h)⟩
    rcases List.mem_cons.1 hm with he | hm
    · cases he; exact ⟨l, hl, old l _ (mem_get_add_new ..)⟩
    · exact fs _ _ _ _ _ _ _ hm
  · intro name dirs rest acc res defn fl _ _ ⟨old, fs, ins⟩
    exact ⟨fun l y hy => old l y (foldl_invariant (J := fun acc => y ∈ acc.1.get l) fl acc hy fun _ _ _ h => mem_get_add_old h),
      fun a n g gv d t s hm => fs _ _ _ _ _ _ _ (skip hm fun h => nomatch h), fun c d sub hm => ins c d sub (skip hm fun h => nomatch h)⟩
  · intro c d sub rest lf lfr res fl hfl ⟨old, fs, ins⟩
    refine ⟨fun l y hy => old l y (foldl_invariant (J := fun b => y ∈ b.get l) fl lf hy fun _ _ _ h => mem_get_add_old h),
      fun a n g gv d t s hm => fs _ _ _ _ _ _ _ (skip hm fun h => nomatch h), fun c' d' sub' hm s hs => ?_⟩
    rcases List.mem_cons.1 hm with he | hm
    · cases he
      obtain ⟨l, hl, hg⟩ := (splitByLoc_complete sub [] fl hfl).2 s hs
      rcases get_mem_or_nil fl l with hmem | hnil
      · -- the bundle of `l` is one of those folded over: its copy of the fragment is added, and stays
        refine ⟨l, _, hl, hg, old l _ ?_⟩
        generalize fl.get l = ss at hmem
        obtain ⟨pre, post, rfl⟩ := List.append_of_mem hmem
        rw [List.foldl_append, List.foldl_cons]
        exact foldl_invariant (J := fun (b : Buckets Sel) => Sel.inline c d ss ∈ b.get l) post _ (mem_get_add_new ..)
          fun _ _ _ h => mem_get_add_old h
      · rw [hnil] at hg; cases hg
    · exact ins c' d' sub' hm s hs

/-! ### `kickOff`, `processSel`, `processSels`, `extract`, `buildSteps`: inversion and induction -/

/-- the selection and fragment definitions a bundle is queued with -/
def wrapped (cfg : Cfg) (lfr : Buckets FragDef) (l : Loc) (ss : List Sel) : Except Err (List Sel × List FragDef) :=
  if cfg.wrapper.isEmpty then .ok (ss, lfr.get l) else wrap cfg.wrapper cfg.parentType (lfr.get l) ss

theorem kickOff_induct {motive : Buckets Sel → St → St → Prop}
    (nil : ∀ st, motive [] st st)
    (skip : ∀ ss rest st st1, motive rest st st1 → motive ((cfg.loc, ss) :: rest) st st1)
    (kick : ∀ l ss rest st st1 ss' fr', l ≠ cfg.loc → wrapped cfg lfr l ss = .ok (ss', fr') →
      motive rest { st with queue := addStep st.queue ⟨some cfg.step, l, cfg.parentType, cfg.ip, ss', fr'⟩ } st1 →
      motive ((l, ss) :: rest) st st1) :
    ∀ (lf : Buckets Sel) (st st1 : St), kickOff cfg lfr lf st = .ok st1 → motive lf st st1
  | [], st, st1, h => by simp only [kickOff] at h; cases h; exact nil st
  | (l, ss) :: rest, st, st1, h => by
    simp only [kickOff] at h
    split at h
    · rename_i hl
      rw [show l = cfg.loc by simpa using hl]
      exact skip ss rest st st1 (kickOff_induct nil skip kick rest st st1 h)
    · rename_i hl
      split at h
      · cases h
      · rename_i ss' fr' hw
        exact kick l ss rest st st1 ss' fr' (by simpa using hl) hw (kickOff_induct nil skip kick rest _ st1 h)

/-- the result of a call of `extractSelection`, as a relation: `fun cfg st sel st' => rec cfg st = .ok (sel, st')`
    for the function itself, the statement being proved in an induction over it -/
abbrev Call := Cfg → St → List Sel → St → Prop

variable {R : Call}

/-- the configurations of the recursive calls of `extractSelection`: below a field, inside an inline fragment, inside
    the definition a spread names -/
abbrev Cfg.below (cfg : Cfg) (a : String) (d : List Dir) (t : String) (sub : List Sel) : Cfg :=
  { cfg with parentType := t, stepFrags := [], sel := sub, ip := cfg.ip ++ [a], wrapper := fieldWrapper cfg.wrapper d }
abbrev Cfg.inside (cfg : Cfg) (c : String) (d : List Dir) (sub : List Sel) : Cfg :=
  { cfg with parentType := (if c == "" then cfg.parentType else c), sel := sub, wrapper := cfg.wrapper ++ [.inline c d sub] }
abbrev Cfg.spreading (cfg : Cfg) (name : String) (dirs : List Dir) (defn : FragDef) : Cfg :=
  { cfg with parentType := defn.cond, sel := defn.sub, wrapper := cfg.wrapper ++ [.spread name dirs] }

/-- what one iteration of `extractSelection`'s loop over the current location's selections does when it succeeds,
    given what its recursive call does -/
inductive SelStep (R : Call) (cfg : Cfg) (localFrags : List FragDef) : Sel → St → Sel → St → Prop
  | leaf {a n g gv d t st} :
      SelStep R cfg localFrags (.field a n g gv d t []) st (.field a n g gv d t []) { st with vars := st.vars ++ gv ++ dirVars d }
  | field {a n g gv d t sub st sub' st'} : sub ≠ [] →
      R (cfg.below a d t sub) st sub' st' →
      SelStep R cfg localFrags (.field a n g gv d t sub) st (.field a n g gv d t sub') { st' with vars := st'.vars ++ gv ++ dirVars d }
  | inline {c d sub st sub' st'} :
      R (cfg.inside c d sub) { st with vars := st.vars ++ dirVars d } sub' st' →
      SelStep R cfg localFrags (.inline c d sub) st (.inline c d sub') st'
  | spreadNew {name dirs defn st sub' st'} : findFrag localFrags name = some defn →
      R (cfg.spreading name dirs defn) { st with vars := st.vars ++ dirVars dirs } sub' st' →
      findFrag st'.frags name = none →
      SelStep R cfg localFrags (.spread name dirs) st (.spread name dirs)
        { st' with frags := st'.frags ++ [⟨name, defn.cond, defn.dirs, sub'⟩] }
  | spreadSame {name dirs defn st sub' st' existing} : findFrag localFrags name = some defn →
      R (cfg.spreading name dirs defn) { st with vars := st.vars ++ dirVars dirs } sub' st' →
      findFrag st'.frags name = some existing → (beqSels existing.sub sub' || defn.cond == "") = true →
      SelStep R cfg localFrags (.spread name dirs) st (.spread name dirs) st'
  | spreadInline {name dirs defn st sub' st' existing} : findFrag localFrags name = some defn →
      R (cfg.spreading name dirs defn) { st with vars := st.vars ++ dirVars dirs } sub' st' →
      findFrag st'.frags name = some existing → (beqSels existing.sub sub' || defn.cond == "") = false →
      SelStep R cfg localFrags (.spread name dirs) st (.inline defn.cond dirs sub') st'

/-- the loop itself: the state is threaded through the iterations -/
inductive SelSteps (R : Call) (cfg : Cfg) (localFrags : List FragDef) : List Sel → St → List Sel → St → Prop
  | nil {st} : SelSteps R cfg localFrags [] st [] st
  | cons {s ss st s' st1 ss' st2} : SelStep R cfg localFrags s st s' st1 → SelSteps R cfg localFrags ss st1 ss' st2 →
      SelSteps R cfg localFrags (s :: ss) st (s' :: ss') st2

theorem processSel_ok {localFrags : List FragDef}
    {s s' : Sel} {st st' : St} (h : processSel rec cfg localFrags s st = .ok (s', st')) :
    SelStep (fun c st r st' => rec c st = .ok (r, st')) cfg localFrags s st s' st' := by
  cases s with
  | field a n g gv d t sub =>
    simp only [processSel] at h
    split at h
    · rename_i hsub
      cases h
      rw [show sub = [] by simpa using hsub]
      exact .leaf
    · rename_i hsub
      split at h
      · cases h
      · rename_i sub' st1 hr
        cases h
        exact .field (by simpa using hsub) hr
  | spread name dirs =>
    simp only [processSel] at h
    split at h
    · cases h
    · rename_i defn hd
      split at h
      · cases h
      · rename_i sub' st1 hr
        split at h
        · rename_i hn; cases h; exact .spreadNew hd hr hn
        · rename_i existing he
          split at h
          · rename_i hb; cases h; exact .spreadSame hd hr he hb
          · rename_i hb; cases h; exact .spreadInline hd hr he (by simpa using hb)
  | inline c d sub =>
    simp only [processSel] at h
    split at h
    · cases h
    · rename_i sub' st1 hr
      cases h
      exact .inline hr

theorem processSels_ok :
    ∀ {ss ss' : List Sel} {st st' : St}, processSels rec cfg localFrags ss st = .ok (ss', st') →
      SelSteps (fun c st r st' => rec c st = .ok (r, st')) cfg localFrags ss st ss' st'
  | [], ss', st, st', h => by simp only [processSels] at h; cases h; exact .nil
  | s :: ss, ss', st, st', h => by
    simp only [processSels] at h
    split at h
    · cases h
    · rename_i s1 st1 h1
      split at h
      · cases h
      · rename_i ss1 st2 h2
        cases h
        exact .cons (processSel_ok h1) (processSels_ok h2)

theorem SelSteps.mono {R R' : Call} (hR : ∀ c st r st', R c st r st' → R' c st r st') {localFrags : List FragDef}
    {ss ss' : List Sel} {st st' : St} (h : SelSteps R cfg localFrags ss st ss' st') : SelSteps R' cfg localFrags ss st ss' st' := by
  induction h with
  | nil => exact .nil
  | cons h1 _ ih =>
    refine .cons ?_ ih
    cases h1 with
    | leaf => exact .leaf
    | field h1 h2 => exact .field h1 (hR _ _ _ _ h2)
    | inline h1 => exact .inline (hR _ _ _ _ h1)
    | spreadNew h1 h2 h3 => exact .spreadNew h1 (hR _ _ _ _ h2) h3
    | spreadSame h1 h2 h3 h4 => exact .spreadSame h1 (hR _ _ _ _ h2) h3 h4
    | spreadInline h1 h2 h3 h4 => exact .spreadInline h1 (hR _ _ _ _ h2) h3 h4

/-- the selections `extractSelection` goes through itself: the current location's bundle, and the join `id` when some
    other location got a bundle -/
def current (cfg : Cfg) (lf : Buckets Sel) : List Sel :=
  lf.get cfg.loc ++ (if lf.any (fun p => p.1 != cfg.loc) then [idField] else [])

/-- **induction over the planner's recursion**: what holds of a successful call of `extractSelection` whenever it holds
    of the recursive calls made for the current location's selections, holds of every successful call -/
theorem extract_induct {motive : Call}
    (step : ∀ cfg st lf lfr st1 sel st', group env cfg.loc cfg.parentType cfg.stepFrags cfg.sel ([], []) = .ok (lf, lfr) →
      kickOff cfg lfr lf st = .ok st1 → SelSteps motive cfg (lfr.get cfg.loc) (current cfg lf) st1 sel st' → motive cfg st sel st') :
    ∀ (fuel : Nat) (cfg : Cfg) (st : St) (sel : List Sel) (st' : St), extract env fuel cfg st = .ok (sel, st') → motive cfg st sel st'
  | 0, _, _, _, _, h => by simp only [extract] at h; cases h
  | n + 1, cfg, st, sel, st', h => by
    simp only [extract] at h
    split at h
    · cases h
    · rename_i lf lfr hg
      split at h
      · cases h
      · rename_i st1 hk
        exact step cfg st lf lfr st1 sel st' hg hk ((processSels_ok h).mono (extract_induct step n))

/-! ### `appendNewSelections` and `addStep` -/

/-- **`appendNewSelections`** is the target followed by some of the source, in order; every selection of the source is
    there, or one with the same printed form is -/
theorem appendNew_spec : ∀ (source target : List Sel), ∃ extra, appendNew target source = target ++ extra ∧
    extra.Sublist source ∧ ∀ s ∈ source, ∃ t ∈ target ++ extra, t = s ∨ beqSel t s = true
  | [], target => ⟨[], (List.append_nil _).symm, .slnil, fun _ h => (nomatch h)⟩
  | s :: source, target => by
    show ∃ extra, appendNew (if target.any (fun t => beqSel t s) then target else target ++ [s]) source = _ ∧ _
    split
    · rename_i hany
      obtain ⟨extra, h1, h2, h3⟩ := appendNew_spec source target
      refine ⟨extra, h1, h2.cons _, fun x hx => ?_⟩
      rcases List.mem_cons.1 hx with rfl | hx
      · obtain ⟨t, ht, hb⟩ := List.any_eq_true.1 hany
        exact ⟨t, List.mem_append_left _ ht, Or.inr hb⟩
      · exact h3 x hx
    · obtain ⟨extra, h1, h2, h3⟩ := appendNew_spec source (target ++ [s])
      rw [List.append_assoc] at h1 h3
      refine ⟨s :: extra, h1, h2.cons_cons _, fun x hx => ?_⟩
      rcases List.mem_cons.1 hx with rfl | hx
      · exact ⟨x, List.mem_append_right _ (List.mem_cons_self ..), Or.inl rfl⟩
      · exact h3 x hx

theorem appendNew_mem {x : Sel} {source target : List Sel} (h : x ∈ appendNew target source) : x ∈ target ∨ x ∈ source := by
  obtain ⟨extra, h1, h2, _⟩ := appendNew_spec source target
  rw [h1] at h
  exact (List.mem_append.1 h).imp id (h2.subset ·)

/-- **`addStep`** merges the payload into the first pending step at the same place, or appends it -/
theorem addStep_spec : ∀ (queue : List Payload) (p : Payload),
    (∃ pre o post, queue = pre ++ o :: post ∧ samePlace o p = true ∧
      addStep queue p = pre ++ { o with sel := appendNew o.sel p.sel, frags := mergeFrags o.frags p.frags } :: post) ∨
    addStep queue p = queue ++ [p]
  | [], _ => Or.inr rfl
  | q :: qs, p => by
    simp only [addStep]
    split
    · rename_i h; exact Or.inl ⟨[], q, qs, rfl, h, rfl⟩
    · rcases addStep_spec qs p with ⟨pre, o, post, h1, h2, h3⟩ | h
      · exact Or.inl ⟨q :: pre, o, post, by rw [h1]; rfl, h2, by rw [h3]; rfl⟩
      · exact Or.inr (by rw [h]; rfl)

/-- what holds of the pending steps and of the payload, and is kept when a payload is merged into a step at the same
    place, holds after `addStep` -/
theorem addStep_forall {X : Payload → Prop} {queue : List Payload} {p : Payload} (hq : ∀ o ∈ queue, X o) (hp : X p)
    (hm : ∀ o ∈ queue, samePlace o p = true → X { o with sel := appendNew o.sel p.sel, frags := mergeFrags o.frags p.frags }) :
    ∀ o ∈ addStep queue p, X o := by
  intro o ho
  rcases addStep_spec queue p with ⟨pre, o', post, rfl, h2, h3⟩ | h
  · rw [h3] at ho
    rcases List.mem_append.1 ho with ho | ho
    · exact hq o (List.mem_append_left _ ho)
    · rcases List.mem_cons.1 ho with rfl | ho
      · exact hm o' (List.mem_append_right _ (List.mem_cons_self ..)) h2
      · exact hq o (List.mem_append_right _ (List.mem_cons_of_mem _ ho))
  · rw [h] at ho
    exact (List.mem_append.1 ho).elim (hq o) fun ho => by rw [List.mem_singleton.1 ho]; exact hp

/-! ### the queue of pending steps changes through `addStep` only -/

/-- with nothing bundled for another location, no step is kicked off -/
theorem kickOff_local :
    ∀ (lf : Buckets Sel) (st : St), (∀ l ss, (l, ss) ∈ lf → l = cfg.loc) → kickOff cfg lfr lf st = .ok st
  | [], st, _ => rfl
  | (location, ss) :: rest, st, h => by
    simp only [kickOff, h location ss (List.mem_cons_self ..), beq_self_eq_true, if_true]
    exact kickOff_local rest st (fun l ss' hm => h l ss' (List.mem_cons_of_mem _ hm))

/-- a reflexive, transitive relation on queues that adding a step kicked off by `cfg` respects holds across `kickOff` -/
theorem kickOff_queue {Q : List Payload → List Payload → Prop} (refl : ∀ q, Q q q)
    (trans : ∀ {a b c}, Q a b → Q b c → Q a c)
    (add : ∀ q l ss fr, l ≠ cfg.loc → Q q (addStep q ⟨some cfg.step, l, cfg.parentType, cfg.ip, ss, fr⟩))
    {lf : Buckets Sel} {st st1 : St} (h : kickOff cfg lfr lf st = .ok st1) : Q st.queue st1.queue :=
  kickOff_induct (motive := fun _ st st1 => Q st.queue st1.queue) (fun _ => refl _) (fun _ _ _ _ h => h)
    (fun l _ _ st _ ss' fr' hl _ h => trans (add st.queue l ss' fr' hl) h) lf st st1 h

/-- ... and across the loop over the current selections, if it holds across the recursive calls: they are made for the
    same step at the same location, at or below the same insertion point -/
theorem SelSteps.queue {Q : List Payload → List Payload → Prop}
    (refl : ∀ q, Q q q) (trans : ∀ {a b c}, Q a b → Q b c → Q a c)
    (hR : ∀ c st r st', R c st r st' → c.loc = cfg.loc → c.step = cfg.step → (∃ t, c.ip = cfg.ip ++ t) → Q st.queue st'.queue)
    {ss ss' : List Sel} {st st' : St} (h : SelSteps R cfg localFrags ss st ss' st') : Q st.queue st'.queue := by
  induction h with
  | nil => exact refl _
  | cons h1 _ ih =>
    refine trans ?_ ih
    cases h1 with
    | leaf => exact refl _
    | field _ h => exact (hR _ _ _ _ h rfl rfl ⟨_, rfl⟩ :)
    | inline h => exact (hR _ _ _ _ h rfl rfl ⟨[], (List.append_nil _).symm⟩ :)
    | spreadNew _ h _ => exact (hR _ _ _ _ h rfl rfl ⟨[], (List.append_nil _).symm⟩ :)
    | spreadSame _ h _ _ => exact (hR _ _ _ _ h rfl rfl ⟨[], (List.append_nil _).symm⟩ :)
    | spreadInline _ h _ _ => exact (hR _ _ _ _ h rfl rfl ⟨[], (List.append_nil _).symm⟩ :)

/-- the configuration and the state `generatePlans` builds a pending step with, and the step it records -/
abbrev stepCfg (next : Nat) (p : Payload) : Cfg :=
  { step := next, loc := p.location, parentType := p.parentType, stepFrags := p.frags, sel := p.sel, ip := p.ip, wrapper := [] }
abbrev builtStep (next : Nat) (p : Payload) (sel : List Sel) (st : St) : Step :=
  { id := next, parent := p.parent, location := p.location, parentType := p.parentType, ip := p.ip,
    sel := sel, frags := st.frags, vars := st.vars }

/-- an invariant of the work list that building one step keeps holds of the finished plan -/
theorem buildSteps_induct {fuel : Nat} {motive : Nat → List Payload → List Step → Prop}
    (step : ∀ next p queue acc sel st, motive next (p :: queue) acc →
      extract env fuel (stepCfg next p) { vars := [], frags := [], queue := queue } = .ok (sel, st) →
      motive (next + 1) st.queue (acc ++ [builtStep next p sel st])) :
    ∀ (k next : Nat) (queue : List Payload) (acc res : List Step),
      buildSteps env fuel k next queue acc = .ok res → motive next queue acc → ∃ next', motive next' [] res
  | 0, next, [], acc, res, h, hm => by simp only [buildSteps] at h; cases h; exact ⟨next, hm⟩
  | 0, _, _ :: _, _, _, h, _ => by simp only [buildSteps] at h; cases h
  | _ + 1, next, [], acc, res, h, hm => by simp only [buildSteps] at h; cases h; exact ⟨next, hm⟩
  | k + 1, next, p :: queue, acc, res, h, hm => by
    simp only [buildSteps] at h
    split at h
    · cases h
    · rename_i sel st he
      exact buildSteps_induct step k _ _ _ res h (step next p queue acc sel st hm he)

/-- what every call of `extractSelection` from the work list establishes of the step it builds holds of every step -/
theorem planOperation_forall {fuel : Nat} {P : Step → Prop}
    (hstep : ∀ next p queue sel st,
      extract env fuel (stepCfg next p) { vars := [], frags := [], queue := queue } = .ok (sel, st) → P (builtStep next p sel st))
    {operation : String} {sels : List Sel} {steps : List Step} (h : planOperation env fuel operation sels = .ok steps) :
    ∀ s ∈ steps, P s := by
  obtain ⟨_, hm⟩ := buildSteps_induct (motive := fun _ _ acc => ∀ s ∈ acc, P s) (fun next p queue acc sel st ha he s hs => by
    rcases List.mem_append.1 hs with hs | hs
    · exact ha s hs
    · rw [List.mem_singleton.1 hs]; exact hstep next p queue sel st he) _ _ _ _ _ h (fun _ hs => nomatch hs)
  exact hm

/-- `generatePlans` fails when it runs out of steps to count, or with the failure of an `extractSelection` it calls: for
    a pending step, the steps before it built, any invariant of the work list as in `buildSteps_induct` still holding -/
theorem buildSteps_error {fuel : Nat} {e : Err} {motive : Nat → List Payload → List Step → Prop}
    (step : ∀ next p queue acc sel st, motive next (p :: queue) acc →
      extract env fuel (stepCfg next p) { vars := [], frags := [], queue := queue } = .ok (sel, st) →
      motive (next + 1) st.queue (acc ++ [builtStep next p sel st])) :
    ∀ (k next : Nat) (queue : List Payload) (acc : List Step), buildSteps env fuel k next queue acc = .error e →
      motive next queue acc →
      e = .fuel ∨ ∃ next p queue acc, motive next (p :: queue) acc ∧
        extract env fuel (stepCfg next p) { vars := [], frags := [], queue := queue } = .error e
  | 0, _, [], _, h, _ => by simp only [buildSteps] at h; cases h
  | 0, _, _ :: _, _, h, _ => by simp only [buildSteps] at h; cases h; exact Or.inl rfl
  | _ + 1, _, [], _, h, _ => by simp only [buildSteps] at h; cases h
  | k + 1, next, p :: queue, acc, h, hm => by
    simp only [buildSteps] at h
    split at h
    · rename_i e' he; cases h; exact Or.inr ⟨next, p, queue, acc, hm, he⟩
    · rename_i sel st he
      exact buildSteps_error step k _ _ _ h (step next p queue acc sel st hm he)

end Pl
