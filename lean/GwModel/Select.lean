import GwModel.FactTypes
/-! Model of `MinQueriesPlanner.selectLocation` (plan.go), parameterised by the facts extracted from the
    source: which sources make up the priority list and in which order. Used by C02 (confinement),
    C08 (no ping-pong), C13 (no needless hop) and C20 (priority, then locality). -/
namespace Sel

abbrev Loc := String

/-- the chooser proper: a single possible location is taken as is; otherwise the first entry of the
    priority list that is possible; otherwise the first declared location -/
def choose (possible prio : List Loc) : Option Loc :=
  match possible with
  | [] => none            -- `URLFor` fails before the real code gets here
  | [l] => some l
  | l :: _ =>
    match prio.find? (fun p => decide (p ∈ possible)) with
    | some p => some p
    | none => some l

/-- the priority list the source builds -/
def prioOf (order : List Facts.PrioSource) (configured : List Loc) (parent internal : Loc) : List Loc :=
  order.flatMap fun s =>
    match s with
    | .configured => configured
    | .parent => [parent]
    | .internal => [internal]
    | .unknown => []

def FactsSafe (f : Facts.SelectFacts) : Prop :=
  f.recognised = true ∧ f.singleShortCircuit = true ∧ f.fallbackFirst = true ∧
  f.order = [.configured, .parent, .internal]

instance (f : Facts.SelectFacts) : Decidable (FactsSafe f) := by unfold FactsSafe; exact inferInstance

/-- the rule the property states: configured priorities, then the enclosing object's service, then the gateway -/
def spec : Facts.SelectFacts :=
  { recognised := true, singleShortCircuit := true, fallbackFirst := true, order := [.configured, .parent, .internal] }

/-- `selectLocation` as the current source denotes it -/
def selectLocation (f : Facts.SelectFacts) (possible configured : List Loc) (parent internal : Loc) : Option Loc :=
  choose possible (prioOf f.order configured parent internal)

/-- when the extracted facts are safe, the source denotes the specified rule (the driver always answers with
    the specified rule, so that a replay found on a changed tree is a real counterexample to the property) -/
theorem selectLocation_of_safe {f : Facts.SelectFacts} (h : FactsSafe f) (possible configured : List Loc)
    (parent internal : Loc) :
    selectLocation f possible configured parent internal = selectLocation spec possible configured parent internal := by
  unfold selectLocation; rw [h.2.2.2]; rfl

theorem prioOf_safe (configured : List Loc) (parent internal : Loc) :
    prioOf [.configured, .parent, .internal] configured parent internal = configured ++ [parent, internal] := by
  simp [prioOf, List.flatMap]

/-- with safe facts the source's chooser is `choose` over configured priorities, then parent, then gateway -/
theorem selectLocation_safe {f : Facts.SelectFacts} (h : FactsSafe f) (possible configured : List Loc)
    (parent internal : Loc) :
    selectLocation f possible configured parent internal = choose possible (configured ++ [parent, internal]) := by
  unfold selectLocation; rw [h.2.2.2, prioOf_safe]

/-- **the chooser in closed form**: the first entry of the priority list that declares the field, else the first
    declaring service.  (Taking a single declaring service as it is changes nothing: an entry that declares the field is
    then that service.) -/
theorem choose_eq (possible prio : List Loc) :
    choose possible prio = (prio.find? fun p => decide (p ∈ possible)).or possible.head? := by
  unfold choose
  split
  · rw [List.find?_eq_none.2 (by simp)]; rfl
  · rename_i l
    cases h : prio.find? fun p => decide (p ∈ [l]) with
    | none => rfl
    | some p => have := List.find?_some h; simp at this; rw [this]; rfl
  · cases prio.find? _ <;> rfl

/-- the chosen location always declares the field (whatever the priority list) -/
theorem choose_mem {possible prio : List Loc} {l : Loc} (h : choose possible prio = some l) : l ∈ possible := by
  rw [choose_eq] at h
  cases hp : prio.find? fun p => decide (p ∈ possible) with
  | some p =>
    have := List.find?_some hp
    rw [hp] at h; exact Option.some.inj h ▸ of_decide_eq_true this
  | none => rw [hp] at h; exact List.mem_of_mem_head? h

/-- the first applicable entry of a priority list that ends with `x`, when `x` is applicable -/
theorem find_first {l : List Loc} {q : Loc → Bool} {x : Loc} (hx : q x = true)
    (hl : l.find? q = none) (rest : List Loc) : (l ++ x :: rest).find? q = some x := by
  rw [List.find?_append, hl, List.find?_cons_of_pos hx]; rfl

/-- re-asking from the chosen location gives the chosen location again: a dependent step never sends
    its own top-level fields elsewhere (no ping-pong, no needless hop) -/
theorem choose_stable {possible configured : List Loc} {parent internal l : Loc}
    (h : choose possible (configured ++ [parent, internal]) = some l) :
    choose possible (configured ++ [l, internal]) = some l := by
  have hmem := choose_mem h
  rw [choose_eq] at h ⊢
  cases hp : configured.find? (fun p => decide (p ∈ possible)) with
  | some p => rw [List.find?_append, hp] at h ⊢; exact h
  | none => rw [find_first (decide_eq_true hmem) hp]; rfl

/-- a configured priority that offers the field wins: the result is the FIRST configured location that
    is possible -/
theorem choose_priority {possible configured : List Loc} {parent internal p : Loc}
    (hlen : 2 ≤ possible.length)
    (hp : configured.find? (fun q => decide (q ∈ possible)) = some p) :
    choose possible (configured ++ [parent, internal]) = some p := by
  rw [choose_eq, List.find?_append, hp]; rfl

/-- no applicable priority: the field stays with the service already being queried if it offers it -/
theorem choose_parent {possible configured : List Loc} {parent internal : Loc}
    (hnone : configured.find? (fun q => decide (q ∈ possible)) = none) (hpar : parent ∈ possible) :
    choose possible (configured ++ [parent, internal]) = some parent := by
  rw [choose_eq, find_first (decide_eq_true hpar) hnone]; rfl

/-- neither a priority nor the parent: the gateway's own fields are answered by the gateway -/
theorem choose_internal {possible configured : List Loc} {parent internal : Loc}
    (hlen : 2 ≤ possible.length)
    (hnone : configured.find? (fun q => decide (q ∈ possible)) = none) (hpar : parent ∉ possible)
    (hint : internal ∈ possible) :
    choose possible (configured ++ [parent, internal]) = some internal := by
  have h1 : (configured ++ [parent]).find? (fun q => decide (q ∈ possible)) = none := by
    rw [List.find?_append, hnone, List.find?_cons_of_neg (by simpa using hpar)]; rfl
  rw [choose_eq, List.append_cons configured parent [internal], find_first (decide_eq_true hint) h1]; rfl

/-- totality: whenever some service declares the field, a location is chosen -/
theorem choose_total {possible prio : List Loc} (h : possible ≠ []) : ∃ l, choose possible prio = some l := by
  rw [choose_eq]
  obtain ⟨a, r, rfl⟩ := List.exists_cons_of_ne_nil h
  cases prio.find? _ <;> exact ⟨_, rfl⟩

/-! ### entries that name no offering service, and repeated entries -/

theorem find_skip {pre post : List Loc} {q : Loc → Bool} {x : Loc} (hx : q x = false) :
    (pre ++ x :: post).find? q = (pre ++ post).find? q := by
  rw [List.find?_append, List.find?_append, List.find?_cons_of_neg (by simp [hx])]

/-- an entry of the priority list that does not offer the field — a blank, a name no service has, a service that
    does not declare it — changes nothing, wherever it stands -/
theorem choose_skip_irrelevant (possible pre post : List Loc) (x : Loc) (hx : x ∉ possible) :
    choose possible (pre ++ x :: post) = choose possible (pre ++ post) := by
  rw [choose_eq, choose_eq, find_skip (decide_eq_false hx)]

theorem find_repeat {pre mid post : List Loc} {q : Loc → Bool} {x : Loc} :
    (pre ++ x :: (mid ++ x :: post)).find? q = (pre ++ x :: (mid ++ post)).find? q := by
  cases hx : q x with
  | true => rw [List.find?_append, List.find?_append, List.find?_cons_of_pos hx, List.find?_cons_of_pos hx]
  | false => rw [find_skip hx, find_skip hx, ← List.append_assoc, find_skip hx, List.append_assoc]

/-- naming a service a second time changes nothing: its first occurrence is its rank, and what follows the
    repetition keeps its order -/
theorem choose_repeat_irrelevant (possible pre mid post : List Loc) (x : Loc) :
    choose possible (pre ++ x :: (mid ++ x :: post)) = choose possible (pre ++ x :: (mid ++ post)) := by
  rw [choose_eq, choose_eq, find_repeat]

end Sel
