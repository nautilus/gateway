import GwModel.Insert
/-! `lookup` and `put` on association lists; key order (`Sorted`), under which a list is determined by its look-ups. -/
namespace Ins

theorem lookup_put (k k' : Nat) (v : J) (l : KVs) : lookup k (put k' v l) = if k = k' then some v else lookup k l := by
  induction l with
  | nil => simp only [put, lookup]; grind
  | cons p r ih =>
    obtain ⟨a, w⟩ := p
    simp only [put]
    grind [lookup]

theorem put_put_same (k : Nat) (v w : J) (l : KVs) : put k v (put k w l) = put k v l := by
  induction l with
  | nil => simp [put]
  | cons p r ih =>
    obtain ⟨a, x⟩ := p
    simp only [put]
    grind [put]

theorem put_comm (k k' : Nat) (v w : J) (l : KVs) (h : k ≠ k') : put k v (put k' w l) = put k' w (put k v l) := by
  induction l with
  | nil => simp only [put]; grind
  | cons p r ih =>
    obtain ⟨a, x⟩ := p
    simp only [put]
    grind [put]

def keys (l : KVs) : List Nat := l.map Prod.fst
def Sorted (l : KVs) : Prop := (keys l).Pairwise (· < ·)

@[simp] theorem keys_nil : keys [] = [] := rfl
@[simp] theorem keys_cons (a : Nat) (w : J) (r : KVs) : keys ((a, w) :: r) = a :: keys r := rfl

theorem sorted_cons {a : Nat} {w : J} {r : KVs} : Sorted ((a, w) :: r) ↔ (∀ x ∈ keys r, a < x) ∧ Sorted r := by
  simp [Sorted, List.pairwise_cons]

theorem mem_put {k k' : Nat} {u v : J} {l : KVs} (h : (k, u) ∈ put k' v l) : (k = k' ∧ u = v) ∨ (k, u) ∈ l := by
  induction l with
  | nil => simp [put] at h; exact Or.inl h
  | cons p r ih =>
    obtain ⟨a, w⟩ := p
    simp only [put] at h
    split at h
    · rcases List.mem_cons.1 h with h | h
      · cases h; exact Or.inl ⟨rfl, rfl⟩
      · exact Or.inr (List.mem_cons_of_mem _ h)
    · split at h
      · rcases List.mem_cons.1 h with h | h
        · cases h; exact Or.inl ⟨rfl, rfl⟩
        · exact Or.inr h
      · rcases List.mem_cons.1 h with h | h
        · exact Or.inr (h ▸ List.mem_cons_self ..)
        · rcases ih h with h | h
          · exact Or.inl h
          · exact Or.inr (List.mem_cons_of_mem _ h)

theorem mem_keys_put {x k : Nat} {v : J} {l : KVs} (h : x ∈ keys (put k v l)) : x = k ∨ x ∈ keys l := by
  obtain ⟨⟨_, u⟩, hm, rfl⟩ := List.mem_map.1 h
  exact (mem_put hm).imp (·.1) fun hm => List.mem_map.2 ⟨_, hm, rfl⟩

theorem sorted_put {k : Nat} {v : J} {l : KVs} (h : Sorted l) : Sorted (put k v l) := by
  induction l with
  | nil => simp [put, Sorted]
  | cons p r ih =>
    obtain ⟨a, w⟩ := p
    rw [sorted_cons] at h
    simp only [put]
    split
    · subst_vars; rw [sorted_cons]; exact h
    · split
      · rw [sorted_cons]; refine ⟨?_, sorted_cons.2 h⟩
        intro x hx; simp at hx
        rcases hx with hx | hx
        · omega
        · have := h.1 x hx; omega
      · rw [sorted_cons]; refine ⟨?_, ih h.2⟩
        intro x hx
        rcases mem_keys_put hx with hx | hx
        · omega
        · exact h.1 x hx

theorem mem_of_lookup {k : Nat} {v : J} {l : KVs} (h : lookup k l = some v) : (k, v) ∈ l := by
  induction l with
  | nil => simp [lookup] at h
  | cons p r ih =>
    obtain ⟨a, w⟩ := p
    simp only [lookup] at h
    split at h
    · cases h; subst_vars; exact List.mem_cons_self ..
    · split at h
      · cases h
      · exact List.mem_cons_of_mem _ (ih h)

theorem mem_keys_of_mem {k : Nat} {v : J} {l : KVs} (h : (k, v) ∈ l) : k ∈ keys l :=
  List.mem_map.2 ⟨(k, v), h, rfl⟩

theorem lookup_of_mem {k : Nat} {v : J} {l : KVs} (hs : Sorted l) (h : (k, v) ∈ l) : lookup k l = some v := by
  induction l with
  | nil => cases h
  | cons p r ih =>
    obtain ⟨a, w⟩ := p
    rw [sorted_cons] at hs
    simp only [lookup]
    rcases List.mem_cons.1 h with h | h
    · cases h; simp
    · have hk := hs.1 k (mem_keys_of_mem h)
      have : ¬ k = a := by omega
      have : ¬ k < a := by omega
      simp [*, ih hs.2 h]

theorem lookup_none_of_lt {k : Nat} {l : KVs} (h : ∀ x ∈ keys l, k < x) : lookup k l = none := by
  cases l with
  | nil => rfl
  | cons p r =>
    obtain ⟨a, w⟩ := p
    have := h a (by simp)
    simp only [lookup]
    have h1 : ¬ k = a := by omega
    simp [h1, this]

theorem sorted_ext {a b : KVs} (ha : Sorted a) (hb : Sorted b) (h : ∀ k, lookup k a = lookup k b) : a = b := by
  induction a generalizing b with
  | nil =>
    cases b with
    | nil => rfl
    | cons p r =>
      obtain ⟨k, w⟩ := p
      have := h k; simp [lookup] at this
  | cons p r ih =>
    obtain ⟨k, w⟩ := p
    cases b with
    | nil => have := h k; simp [lookup] at this
    | cons q s =>
      obtain ⟨k2, w2⟩ := q
      rw [sorted_cons] at ha hb
      have hk : k = k2 := by
        have h1 := h k
        have h2 := h k2
        simp only [lookup] at h1 h2
        by_cases e : k = k2
        · exact e
        · exfalso
          by_cases lt : k < k2
          · simp [e, lt] at h1
          · have e' : ¬ k2 = k := fun x => e x.symm
            have lt' : k2 < k := by omega
            simp [e', lt'] at h2
      subst hk
      have hw : w = w2 := by have := h k; simpa [lookup] using this
      subst hw
      congr 1
      apply ih ha.2 hb.2
      intro x
      have hx := h x
      simp only [lookup] at hx
      by_cases e : x = k
      · subst e
        rw [lookup_none_of_lt ha.1, lookup_none_of_lt hb.1]
      · by_cases lt : x < k
        · rw [lookup_none_of_lt (fun y hy => by have := ha.1 y hy; omega),
              lookup_none_of_lt (fun y hy => by have := hb.1 y hy; omega)]
        · simpa [e, lt] using hx

end Ins
