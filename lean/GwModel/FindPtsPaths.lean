import GwModel.FindPtsBasic
/-! The paths `findPts` returns.  `findPts_cons_ok` says once what a successful search does at one target point;
    that a realised path leads to the object whose id it carries (`findPts_real`, `findPts_good`) and that the
    realised paths part from one another at list indices (`findPts_pairwise`, with distinctness and independence
    as corollaries) are inductions over the target path that use nothing else about `findPts`. -/
namespace Fp
open Ins

/-- what `findPts` does once it stands on the value `e` that point `(key, idx)` led to: nothing for `null`; in an
    object, the last target point records the object's id, any other goes on below it -/
def below (rest : List PInfo) (pre : List RPt) (key : Nat) (idx : Option Nat) : J → Except FErr (List (List RPt))
  | .null => .ok []
  | .obj o =>
    match rest, lookup 0 o with
    | [], none => .ok []
    | [], some id => .ok [pre ++ [⟨key, idx, some id⟩]]
    | _ :: _, _ => findPts rest o (pre ++ [⟨key, idx, none⟩])
  | _ => .error .entryNotMap

theorem below_ok {rest pre key idx e ps} (h : below rest pre key idx e = .ok ps) :
    ps = [] ∨ ∃ o, e = .obj o ∧
      ((rest = [] ∧ ∃ id, lookup 0 o = some id ∧ ps = [pre ++ [⟨key, idx, some id⟩]]) ∨
       (rest ≠ [] ∧ findPts rest o (pre ++ [⟨key, idx, none⟩]) = .ok ps)) := by
  cases e with
  | null => cases h; exact .inl rfl
  | leaf s => cases h
  | arr l => cases h
  | obj o =>
    cases rest with
    | nil =>
      simp only [below] at h
      cases hid : lookup 0 o with
      | none => simp only [hid] at h; cases h; exact .inl rfl
      | some id => simp only [hid] at h; cases h; exact .inr ⟨o, rfl, .inl ⟨rfl, id, hid, rfl⟩⟩
    | cons q r => exact .inr ⟨o, rfl, .inr ⟨by simp, h⟩⟩

/-- **`findPts` at one target point.**  A successful search at `p` has found some children under `p.key` — the
    value itself, or the entries of a list, each with its index — and its result is what `below` returns for each
    child, one after the other; two children differ in their list index; in a reply with the promised kinds a
    child that is an object is where `walk` gets to, and the promise holds below it. -/
def StepOk (p : PInfo) (rest : List PInfo) (chunk : KVs) (pre : List RPt) (paths : List (List RPt)) : Prop :=
  ∃ (cs : List (Option Nat × J)) (g : Option Nat × J → List (List RPt)),
    paths = cs.flatMap g ∧
    cs.Pairwise (fun a b => ∃ i j, a.1 = some i ∧ b.1 = some j ∧ i ≠ j) ∧
    (∀ c ∈ cs, below rest pre p.key c.1 c.2 = .ok (g c)) ∧
    (Conf (p :: rest) chunk → ∀ c ∈ cs, ∀ o, c.2 = .obj o →
      (∀ id r, walk (.obj chunk) (⟨p.key, c.1, id⟩ :: r) = walk (.obj o) r) ∧ Conf rest o)

theorem findPts_cons_ok {p : PInfo} {rest : List PInfo} {chunk : KVs} {pre : List RPt} {paths : List (List RPt)}
    (h : findPts (p :: rest) chunk pre = .ok paths) : StepOk p rest chunk pre paths := by
  have nothing : paths = [] → StepOk p rest chunk pre paths := fun e => ⟨[], fun _ => [], by simp [e], .nil, by simp, by simp⟩
  -- a single child
  have one : ∀ (idx : Option Nat) (o : KVs), below rest pre p.key idx (.obj o) = .ok paths →
      (Conf (p :: rest) chunk → (∀ id r, walk (.obj chunk) (⟨p.key, idx, id⟩ :: r) = walk (.obj o) r) ∧ Conf rest o) →
      StepOk p rest chunk pre paths :=
    fun idx o hb hc => ⟨[(idx, .obj o)], fun _ => paths, by simp, by simp, by simpa using hb,
      by intro hC c hm o' ho'; simp at hm; subst hm; cases ho'; exact hc hC⟩
  rw [findPts] at h
  split at h
  · exact nothing (by cases h; rfl)
  split at h
  · exact nothing (by cases h; rfl)
  · split at h
    · cases h
    · exact nothing (by cases h; rfl)
  next value hnn hl =>
  split at h
  next hi =>
    -- a list point
    split at h
    next entries =>
      let inj : Nat × J → Option Nat × J := fun x => (some x.1, x.2)
      rw [show (enumFrom 0 entries).map _ =
          ((enumFrom 0 entries).map inj).map fun c => below rest pre p.key c.1 c.2 from by
        rw [List.map_map]
        exact List.map_congr_left fun ⟨i, e⟩ _ => by cases e <;> rfl] at h
      obtain ⟨hok, hpaths⟩ := concatM_map_ok _ h
      refine ⟨_, _, hpaths, ?_, hok, ?_⟩
      · rw [List.pairwise_map]
        exact (enumFrom_pairwise entries 0).imp fun {a b} hab => ⟨a.1, b.1, rfl, rfl, hab⟩
      · intro hC c hc o ho
        obtain ⟨⟨i, e⟩, hie, rfl⟩ := List.mem_map.1 hc
        have hget := (mem_enumFrom hie).2
        simp only [Nat.sub_zero] at hget
        simp only [inj] at ho; subst ho
        simp only [Conf, hl, hi, if_true] at hC
        exact ⟨fun id r => by simp [walk, hl, hget, inj], hC _ (List.mem_of_getElem? hget) o rfl⟩
    · cases h
  next hi =>
    -- a field point
    have hi : p.isList = false := by simpa using hi
    cases rest with
    | nil =>
      simp only at h
      cases value with
      | null => exact absurd rfl (hnn)
      | leaf s => cases h
      | obj k =>
        refine one none k ?_ fun _ => ⟨fun id r => by simp [walk, hl], trivial⟩
        cases hid : lookup 0 k <;> simpa [below, hid] using h
      | arr l =>
        cases l with
        | nil => cases h
        | cons e0 es =>
          cases e0 with
          | obj ekvs =>
            simp only at h
            refine one (some 0) ekvs ?_ fun _ => ⟨fun id r => by simp [walk, hl], trivial⟩
            cases hid : lookup 0 ekvs with
            | none => simp [hid] at h
            | some id => simpa [below, hid] using h
          | null => cases h
          | leaf s => cases h
          | arr l' => cases h
    | cons q rest' =>
      simp only at h
      refine one none _ h fun hC => ?_
      simp only [Conf, hl] at hC
      cases value with
      | null => exact absurd rfl hnn
      | leaf s => simp [hi] at hC
      | arr l => simp [hi] at hC
      | obj k =>
        simp only [hi, Bool.false_eq_true, if_false] at hC
        exact ⟨fun id r => by simp [walk, hl], hC⟩

/-- **every realised path**: it extends the prefix by one point per target point, with the target's keys; in a reply
    with the promised kinds it leads to an object, whose id its last point records -/
theorem findPts_real : ∀ (infos : List PInfo) (chunk : KVs) (pre : List RPt) (paths : List (List RPt)),
    findPts infos chunk pre = .ok paths → ∀ path ∈ paths,
      ∃ suf, path = pre ++ suf ∧ suf.map (·.key) = infos.map (·.key) ∧
        (Conf infos chunk → ∃ o, walk (.obj chunk) suf = some (.obj o) ∧
          ∀ last, suf.getLast? = some last → ∃ id, last.id = some id ∧ lookup 0 o = some id)
  | [], chunk, pre, paths, h, path, hp => by
    cases h
    cases List.mem_singleton.1 hp
    exact ⟨[], by simp, rfl, fun _ => ⟨chunk, rfl, by simp⟩⟩
  | p :: rest, chunk, pre, paths, h, path, hp => by
    obtain ⟨cs, g, rfl, -, hb, hconf⟩ := findPts_cons_ok h
    obtain ⟨c, hc, hx⟩ := List.mem_flatMap.1 hp
    rcases below_ok (hb c hc) with h0 | ⟨o, ho, ⟨rfl, id, hid, hg⟩ | ⟨hne, hrec⟩⟩
    · rw [h0] at hx; cases hx
    · rw [hg] at hx
      cases List.mem_singleton.1 hx
      refine ⟨[⟨p.key, c.1, some id⟩], rfl, rfl, fun hC => ⟨o, ?_, ?_⟩⟩
      · rw [(hconf hC c hc o ho).1]; rfl
      · intro last hl; cases hl; exact ⟨id, rfl, hid⟩
    · obtain ⟨suf, rfl, hk, hrest⟩ := findPts_real rest o _ _ hrec path hx
      refine ⟨⟨p.key, c.1, none⟩ :: suf, by simp, by simp [hk], fun hC => ?_⟩
      obtain ⟨hw, hCo⟩ := hconf hC c hc o ho
      obtain ⟨o', hw', hlast⟩ := hrest hCo
      refine ⟨o', by rw [hw]; exact hw', fun last hl => hlast last ?_⟩
      cases suf with
      | nil => cases rest with
        | nil => exact absurd rfl hne
        | cons _ _ => simp at hk
      | cons _ _ => simpa [List.getLast?_cons_cons] using hl

theorem findPts_good : ∀ (infos : List PInfo) (chunk : KVs) (pre : List RPt) (paths : List (List RPt)),
    findPts infos chunk pre = .ok paths → Conf infos chunk → ∀ path ∈ paths, Good infos chunk pre path
  | infos, chunk, pre, paths, h, hc, path, hp =>
    let ⟨suf, h1, h2, h3⟩ := findPts_real infos chunk pre paths h path hp
    ⟨suf, h1, h2, h3 hc⟩

theorem findPts_prefix : ∀ (infos : List PInfo) (chunk : KVs) (pre : List RPt) (paths : List (List RPt)),
    findPts infos chunk pre = .ok paths → ∀ path ∈ paths, ∃ suf, path = pre ++ suf
  | infos, chunk, pre, paths, h, path, hp =>
    let ⟨suf, h1, _⟩ := findPts_real infos chunk pre paths h path hp
    ⟨suf, h1⟩

theorem below_form {rest pre key idx e ps} (h : below rest pre key idx e = .ok ps) :
    ∀ x ∈ ps, ∃ id suf, x = pre ++ (⟨key, idx, id⟩ : RPt) :: suf := by
  intro x hx
  rcases below_ok h with h0 | ⟨o, -, ⟨-, id, -, hg⟩ | ⟨-, hrec⟩⟩
  · rw [h0] at hx; cases hx
  · rw [hg] at hx; exact ⟨some id, [], List.mem_singleton.1 hx⟩
  · obtain ⟨suf, hsuf⟩ := findPts_prefix _ _ _ _ hrec x hx
    exact ⟨none, suf, by simp [hsuf]⟩

/-- **the realised paths of one search part from one another at list indices**, each from all later ones -/
theorem findPts_pairwise : ∀ (infos : List PInfo) (chunk : KVs) (pre : List RPt) (paths : List (List RPt)),
    findPts infos chunk pre = .ok paths → paths.Pairwise Parts
  | [], _, pre, _, h => by cases h; exact List.pairwise_singleton _ _
  | p :: rest, chunk, pre, paths, h => by
    obtain ⟨cs, g, rfl, hd, hb, -⟩ := findPts_cons_ok h
    refine List.pairwise_flatMap.2 ⟨fun c hc => ?_, hd.imp_of_mem ?_⟩
    · rcases below_ok (hb c hc) with h0 | ⟨o, -, ⟨-, id, -, hg⟩ | ⟨-, hrec⟩⟩
      · rw [h0]; exact .nil
      · rw [hg]; exact List.pairwise_singleton _ _
      · exact findPts_pairwise _ _ _ _ hrec
    · -- paths below different list entries: the same up to `pre`, then different indices
      rintro a b ha hb' ⟨i, j, hi, hj, hij⟩ x hx y hy
      obtain ⟨id1, s1, rfl⟩ := below_form (hb a ha) x hx
      obtain ⟨id2, s2, rfl⟩ := below_form (hb b hb') y hy
      rw [hi, hj]
      exact parts_same_prefix pre _ _ (parts_diff_index p.key i j hij _ _ _ _)

/-- **no two realised paths insert at the same place**: whatever the reply looks like, the paths the search
    returns differ pairwise in their keys/indices -/
theorem findPts_nodup : ∀ (infos : List PInfo) (chunk : KVs) (pre : List RPt) (paths : List (List RPt)),
    findPts infos chunk pre = .ok paths → (paths.map sig).Nodup
  | infos, chunk, pre, paths, h => (pairwise_parts_iff.1 (findPts_pairwise infos chunk pre paths h)).1

/-- two different realised paths of one search part at a list index -/
theorem findPts_pairwise_parts : ∀ (infos : List PInfo) (chunk : KVs) (pre : List RPt) (paths : List (List RPt)),
    findPts infos chunk pre = .ok paths → ∀ p ∈ paths, ∀ q ∈ paths, sig p ≠ sig q →
      Parts p q
  | infos, chunk, pre, paths, h => (pairwise_parts_iff.1 (findPts_pairwise infos chunk pre paths h)).2

/-- **the messages of one dependent step never contend**: two different realised paths of one search part at a
    list index, so whatever the two follow-up calls return, stitching them is order-independent -/
theorem findPts_pairwise_indep : ∀ (infos : List PInfo) (chunk : KVs) (pre : List RPt) (paths : List (List RPt)),
    findPts infos chunk pre = .ok paths → ∀ p ∈ paths, ∀ q ∈ paths, sig p ≠ sig q →
      ∀ v w, Indep (p.map toPt) v (q.map toPt) w
  | infos, chunk, pre, paths, h, p, hp, q, hq, hne, v, w =>
    indep_of_parts v w p q (findPts_pairwise_parts infos chunk pre paths h p hp q hq hne)

end Fp
