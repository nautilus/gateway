import GwModel.PlanFuel
import GwModel.PlanInject
import GwModel.PlanRouted
import GwModel.PlanPlaced
/-! Planning terminates (C08, "always returns"; documents without named fragments): with more fuel than the nesting
    depth and than the number of fields of the document, the planner model never runs out of fuel — neither inside
    one `extractSelection` (part 1: the nesting of everything the planner queues, wrappers included, stays within the
    nesting of the document) nor in the work list of `generatePlans` (parts 2-4: every pending step other than the
    root keeps at least one of the client's fields for itself, because the service chosen for a field is chosen again
    when asked from that service, so the fields still waiting strictly decrease).

    With `planOperation_routed` (no field without a location), `planOperation_error_benign` and `extract_no_fragment`
    this gives: a routed document without named fragments gets a plan. -/
namespace Pl

/-! ## Part 1: nesting depth of what is queued -/

def QueueDepth (D : Nat) (queue : List Payload) : Prop := ∀ p ∈ queue, depthL p.sel ≤ D

theorem depthL_nestIn : ∀ (ws inner : List Sel), depthL (nestIn ws inner) ≤ ws.length + depthL inner
  | [], _ => by simp [nestIn]
  | .inline c d s :: ws, inner => by
    have := depthL_nestIn ws inner
    simp only [nestIn, depthL, depth, List.length_cons, Nat.max_zero]
    omega
  | .spread .. :: ws, inner => Nat.le_trans (depthL_nestIn ws inner) (by simp only [List.length_cons]; omega)
  | .field .. :: ws, inner => Nat.le_trans (depthL_nestIn ws inner) (by simp only [List.length_cons]; omega)

theorem fieldWrapper_length (ws : List Sel) (d : List Dir) (h : inlineOnly ws = true) : (fieldWrapper ws d).length ≤ ws.length + 1 := by
  have tail : (if d.isEmpty then ([] : List Sel) else [Sel.inline "" d []]).length ≤ 1 := by split <;> simp
  have conds := fun (l : List Sel) =>
    List.length_filterMap_le (fun w => if (dirsOf w).isEmpty then none else some (Sel.inline "" (dirsOf w) [])) l
  cases ws with
  | nil => simpa only [fieldWrapper, List.length_nil, List.drop_zero, List.filterMap_nil, List.append_nil, List.nil_append] using tail
  | cons w ws' =>
    simp only [fieldWrapper, inlineOnly_iff.1 h w (List.mem_cons_self ..), if_true, List.length_nil, List.drop_zero,
      List.nil_append, List.length_append]
    have := conds (w :: ws')
    omega

def RecDepth (D : Nat) (rec : Cfg → St → Except Err (List Sel × St)) : Prop :=
  ∀ cfg st sel st', rec cfg st = .ok (sel, st') → noSpreadL cfg.sel = true → inlineOnly cfg.wrapper = true →
    cfg.wrapper.length + depthL cfg.sel ≤ D → QueueDepth D st.queue → QueueDepth D st'.queue

/-- **the nesting of what is queued, wrappers included, stays within the nesting of the document** -/
theorem extract_depth (env : Env) (D : Nat) : ∀ (fuel : Nat), RecDepth D (extract env fuel) := by
  intro fuel cfg st sel st' h hns hw hd hq
  refine extract_forall_queue (C := fun c => c.wrapper.length + depthL c.sel ≤ D) (X := fun p => depthL p.sel ≤ D)
    ?_ ?_ ?_ h ⟨hns, hw⟩ hd hq
  · -- a call is made for a selection bundled for the current location: one wrapper more, one level less
    intro cfg lf lfr s hn hd hg hs
    have hsd : depth s ≤ depthL cfg.sel ∨ s = idField := by
      rcases List.mem_append.1 hs with hs | hs
      · exact Or.inl (grouped_depth ((group_grouped hg).get s hs))
      · split at hs
        · exact Or.inr (List.mem_singleton.1 hs)
        · cases hs
    refine ⟨fun a n g gv d t sub he hne => ?_, fun c d sub he => ?_⟩ <;> subst he
    · have hsd := hsd.resolve_right fun he => by cases he; exact hne rfl
      have := fieldWrapper_length cfg.wrapper d hn.2
      show (fieldWrapper cfg.wrapper d).length + depthL sub ≤ D
      simp only [depth] at hsd; omega
    · have hsd := hsd.resolve_right fun he => nomatch he
      show (cfg.wrapper ++ [Sel.inline c d sub]).length + depthL sub ≤ D
      simp only [depth, List.length_append, List.length_singleton] at hsd ⊢; omega
  · intro cfg lf lfr l ss _ hd hg hm _
    have : depthL ss ≤ depthL cfg.sel := depthL_le_of_mem fun s hs => grouped_depth (group_grouped hg l ss hm s hs)
    exact Nat.le_trans (depthL_nestIn _ _) (by omega)
  · exact fun o p ho hp _ => depthL_le_of_mem fun s hs => (appendNew_mem hs).elim
      (fun h => Nat.le_trans (depth_le_depthL h) ho) (fun h => Nat.le_trans (depth_le_depthL h) hp)

/-! ## Part 2: accounting — the client's fields are either kept by the step or wait in the queue -/

mutual
/-- the number of the client's fields in a selection (the planner's own `id` is not one of them) -/
def cfc : Sel → Nat
  | .field _ n _ _ _ t sub => (if n == "id" && t == "" then 0 else 1) + cfcL sub
  | .inline _ _ sub => cfcL sub
  | .spread _ _ => 0
def cfcL : List Sel → Nat
  | [] => 0
  | s :: ss => cfc s + cfcL ss
end

theorem cfcL_append : ∀ (a b : List Sel), cfcL (a ++ b) = cfcL a + cfcL b
  | [], b => by simp [cfcL]
  | x :: a, b => by simp only [List.cons_append, cfcL, cfcL_append a b]; omega

theorem cfc_idField : cfc idField = 0 := by simp [idField, cfc, cfcL]

theorem cfcL_sublist : ∀ {a b : List Sel}, a.Sublist b → cfcL a ≤ cfcL b
  | _, _, .slnil => Nat.le_refl _
  | _, _, .cons x h => Nat.le_trans (cfcL_sublist h) (Nat.le_add_left _ _)
  | _, _, .cons_cons x h => Nat.add_le_add_left (cfcL_sublist h) _

theorem appendNew_cfc (source target : List Sel) : cfcL (appendNew target source) ≤ cfcL target + cfcL source := by
  obtain ⟨extra, h1, h2, _⟩ := appendNew_spec source target
  rw [h1, cfcL_append]
  exact Nat.add_le_add_left (cfcL_sublist h2) _

/-- the client's fields waiting in the queue -/
def waiting : List Payload → Nat
  | [] => 0
  | p :: ps => cfcL p.sel + waiting ps

theorem waiting_append : ∀ (a b : List Payload), waiting (a ++ b) = waiting a + waiting b
  | [], b => by simp [waiting]
  | x :: a, b => by simp only [List.cons_append, waiting, waiting_append a b]; omega

theorem addStep_waiting (queue : List Payload) (p : Payload) : waiting (addStep queue p) ≤ waiting queue + cfcL p.sel := by
  rcases addStep_spec queue p with ⟨pre, o, post, rfl, _, h3⟩ | h
  · have := appendNew_cfc p.sel o.sel
    rw [h3]; simp only [waiting_append, waiting]; omega
  · rw [h]; simp only [waiting_append, waiting]; omega

theorem cfcL_nestIn : ∀ (ws inner : List Sel), cfcL (nestIn ws inner) = cfcL inner
  | [], _ => rfl
  | .inline c d s :: ws, inner => by simp only [nestIn, cfcL, cfc, Nat.add_zero, cfcL_nestIn ws inner]
  | .spread .. :: ws, inner => cfcL_nestIn ws inner
  | .field .. :: ws, inner => cfcL_nestIn ws inner

/-- the client's fields in all bundles -/
def cfcB : Buckets Sel → Nat
  | [] => 0
  | (_, ss) :: rest => cfcL ss + cfcB rest

theorem cfcB_add : ∀ (b : Buckets Sel) (l : Loc) (x : Sel), cfcB (b.add l x) = cfcB b + cfc x
  | [], l, x => by simp [Buckets.add, cfcB, cfcL]
  | (k, xs) :: rest, l, x => by
    simp only [Buckets.add]
    split
    · simp only [cfcB, cfcL_append, cfcL]; omega
    · simp only [cfcB, cfcB_add rest l x]; omega

theorem splitByLoc_cfc {env : Env} {pl : Loc} {T : String} :
    ∀ (sels : List Sel) (b b' : Buckets Sel), splitByLoc env pl T sels b = .ok b' → cfcB b' = cfcB b + cfcL sels
  | [], b, b', h => by simp only [splitByLoc] at h; cases h; simp [cfcL]
  | .field a n g gv d t s :: rest, b, b', h => by
    simp only [splitByLoc] at h
    split at h
    · cases h
    · rw [splitByLoc_cfc rest _ b' h, cfcB_add]; simp only [cfcL]; omega
  | .inline c d s :: rest, b, b', h => by
    simp only [splitByLoc] at h
    rw [splitByLoc_cfc rest _ b' h, cfcB_add]; simp only [cfcL]; omega
  | .spread n d :: rest, b, b', h => by
    simp only [splitByLoc] at h
    rw [splitByLoc_cfc rest _ b' h, cfcB_add]; simp only [cfcL]; omega

theorem group_cfc {env : Env} {pl : Loc} {T : String} {sf : List FragDef} :
    ∀ (sels : List Sel) (acc res : Buckets Sel × Buckets FragDef), noSpreadL sels = true →
      group env pl T sf sels acc = .ok res → cfcB res.1 = cfcB acc.1 + cfcL sels := by
  intro sels acc res hns h
  revert hns
  refine group_induct (motive := fun sels acc res => noSpreadL sels = true → cfcB res.1 = cfcB acc.1 + cfcL sels)
    (fun _ _ => rfl) ?_ ?_ ?_ sels acc res h
  · intro a n g gv d t s rest lf lfr res l _ ih hns
    rw [ih (Bool.and_eq_true_iff.1 hns).2, cfcB_add, cfcL, Nat.add_assoc]
  · exact fun _ _ _ _ _ _ _ _ _ _ hns => nomatch (Bool.and_eq_true_iff.1 hns).1
  · intro c d sub rest lf lfr res fl hfl ih hns
    -- the parts of the fragment hold together what the fragment held
    have fold : ∀ (fl : Buckets Sel) (lf : Buckets Sel),
        cfcB (fl.foldl (fun acc p => acc.add p.1 (.inline c d p.2)) lf) = cfcB lf + cfcB fl := by
      intro fl
      induction fl with
      | nil => exact fun _ => rfl
      | cons p fl ihf => intro lf; rw [List.foldl_cons, ihf, cfcB_add, cfcB, cfc, Nat.add_assoc]
    have := splitByLoc_cfc sub [] fl hfl
    rw [ih (Bool.and_eq_true_iff.1 hns).2, fold, this, cfcL, cfc, cfcB, Nat.zero_add, Nat.add_assoc]

/-- the client's fields in the bundles for other locations than `loc` -/
def cfcOther (loc : Loc) : Buckets Sel → Nat
  | [] => 0
  | (l, ss) :: rest => (if l == loc then 0 else cfcL ss) + cfcOther loc rest

theorem cfc_get_le (loc : Loc) : ∀ (b : Buckets Sel), cfcL (b.get loc) + cfcOther loc b ≤ cfcB b
  | [] => Nat.le_refl _
  | (l, ss) :: rest => by
    have ih := cfc_get_le loc rest
    have hrest : cfcOther loc rest ≤ cfcB rest := Nat.le_trans (Nat.le_add_left _ _) ih
    simp only [Buckets.get, List.lookup, cfcOther, cfcB] at ih ⊢
    by_cases h : loc = l
    · subst h
      simp only [beq_self_eq_true, if_true, Option.getD_some]
      omega
    · have h1 : (loc == l) = false := by simpa using h
      have h2 : (l == loc) = false := by simpa using fun e : l = loc => h e.symm
      simp only [h1, h2, Bool.false_eq_true, if_false]
      omega

theorem kickOff_waiting {cfg : Cfg} {lfr : Buckets FragDef} (hw : inlineOnly cfg.wrapper = true) :
    ∀ (lf : Buckets Sel) (st st1 : St), kickOff cfg lfr lf st = .ok st1 →
      waiting st1.queue ≤ waiting st.queue + cfcOther cfg.loc lf := by
  refine kickOff_induct (fun _ => Nat.le_refl _) ?_ ?_
  · intro ss rest st st1 ih
    simpa only [cfcOther, beq_self_eq_true, if_true, Nat.zero_add] using ih
  · intro l ss rest st st1 ss' fr' hl hwr ih
    rw [wrapped_inlineOnly hw] at hwr
    cases hwr
    have := addStep_waiting st.queue ⟨some cfg.step, l, cfg.parentType, cfg.ip, nestIn cfg.wrapper ss, lfr.get l⟩
    have hl' : (l == cfg.loc) = false := by simpa using hl
    simp only [cfcL_nestIn] at this
    simp only [cfcOther, hl', Bool.false_eq_true, if_false] at ih ⊢
    omega

/-- one call of `extractSelection`: what it keeps plus what it leaves waiting is at most what it was given plus
    what was waiting before -/
def RecAcct (rec : Cfg → St → Except Err (List Sel × St)) : Prop :=
  ∀ cfg st sel st', rec cfg st = .ok (sel, st') → noSpreadL cfg.sel = true → inlineOnly cfg.wrapper = true →
    waiting st'.queue + cfcL sel ≤ waiting st.queue + cfcL cfg.sel

theorem extract_acct (env : Env) : ∀ (fuel : Nat), RecAcct (extract env fuel) := by
  refine fun fuel => extract_induct (motive := fun cfg st sel st' => noSpreadL cfg.sel = true → inlineOnly cfg.wrapper = true →
    waiting st'.queue + cfcL sel ≤ waiting st.queue + cfcL cfg.sel) ?_ fuel
  intro cfg st lf lfr st1 sel st' hg hk hp hns hw
  -- the loop keeps or queues what it goes through; the rest of the given selection was queued by `kickOff`
  have loop : waiting st'.queue + cfcL sel ≤ waiting st1.queue + cfcL (current cfg lf) := by
    have hcn := current_noSpread hg hns
    clear hk hg
    generalize current cfg lf = cur at hp hcn
    induction hp with
    | nil => exact Nat.le_refl _
    | @cons s ss st s' st1 ss' st2 h1 _ ih =>
      have := ih fun s h => hcn s (List.mem_cons_of_mem _ h)
      have hsn := hcn _ (List.mem_cons_self ..)
      simp only [cfcL]
      suffices waiting st1.queue + cfc s' ≤ waiting st.queue + cfc s by omega
      cases h1 with
      | leaf => exact Nat.le_refl _
      | @field a n g gv d t sub _ sub' st0' _ hr =>
        have : waiting st0'.queue + cfcL sub' ≤ waiting st.queue + cfcL sub := hr hsn (inlineOnly_fieldWrapper _ _ hw)
        show waiting st0'.queue + cfc (.field a n g gv d t sub') ≤ waiting st.queue + cfc (.field a n g gv d t sub)
        simp only [cfc]; omega
      | inline hr => exact hr hsn (inlineOnly_append_inline _ _ _ _ hw)
      | spreadNew => cases hsn
      | spreadSame => cases hsn
      | spreadInline => cases hsn
  have hsum := group_cfc cfg.sel ([], []) (lf, lfr) hns hg
  have := kickOff_waiting hw lf st st1 hk
  have := cfc_get_le cfg.loc lf
  have hid : cfcL (if lf.any (fun p => p.1 != cfg.loc) then [idField] else []) = 0 := by split <;> rfl
  rw [current, cfcL_append, hid] at loop
  simp only [cfcB] at hsum
  omega

/-! ## Part 3: every pending step keeps a field -/

/-- the field is one of the client's (not the `id` the planner adds) -/
def clientField (n t : String) : Prop := ¬ (n = "id" ∧ t = "")

/-- the selection holds at its own level — through inline fragments — a client field for which `loc` is chosen when
    asked from `loc` -/
inductive Anchored (env : Env) (loc : Loc) : String → List Sel → Prop
  | field {T : String} {sels : List Sel} {a n g : String} {gv : List String} {d : List Dir} {t : String} {sub : List Sel} :
      Sel.field a n g gv d t sub ∈ sels → Located env loc T n → clientField n t → Anchored env loc T sels
  | inl {T : String} {sels : List Sel} {c : String} {d : List Dir} {sub : List Sel} :
      Sel.inline c d sub ∈ sels → Anchored env loc (if c == "" then T else c) sub → Anchored env loc T sels

theorem Anchored.mono {env : Env} {loc : Loc} {T : String} {a b : List Sel} (h : Anchored env loc T a)
    (hsub : ∀ x ∈ a, x ∈ b) : Anchored env loc T b := by
  cases h with
  | field hm hl hc => exact .field (hsub _ hm) hl hc
  | inl hm ha => exact .inl (hsub _ hm) ha

theorem Anchored.ne_nil {env : Env} {loc : Loc} {T : String} {a : List Sel} (h : Anchored env loc T a) : a ≠ [] := by
  cases h with
  | field hm _ _ => intro e; rw [e] at hm; cases hm
  | inl hm _ => intro e; rw [e] at hm; cases hm

theorem clientField_count {n t : String} (hc : clientField n t) : (if (n == "id" && t == "") = true then 0 else 1) = 1 := by
  rw [if_neg]
  simpa only [Bool.and_eq_true, beq_iff_eq, clientField] using hc

theorem cfc_le_cfcL : ∀ {l : List Sel} {x : Sel}, x ∈ l → cfc x ≤ cfcL l
  | y :: l, x, h => by
    rcases List.mem_cons.1 h with rfl | h
    · exact Nat.le_add_right _ _
    · exact Nat.le_trans (cfc_le_cfcL h) (Nat.le_add_left _ _)

/-- a selection that is anchored holds one of the client's fields -/
theorem Anchored.cfc_pos {env : Env} {loc : Loc} : ∀ {T : String} {a : List Sel}, Anchored env loc T a → 1 ≤ cfcL a := by
  intro T a h
  induction h with
  | field hm _ hc => exact Nat.le_trans (by simp only [cfc, clientField_count hc]; omega) (cfc_le_cfcL hm)
  | inl hm _ ih => exact Nat.le_trans ih (cfc_le_cfcL hm)

/-- the member that anchors the selection: it stays at `loc`, and anchors whatever selection it is a member of -/
theorem Anchored.witness {env : Env} {loc : Loc} {T : String} {a : List Sel} (h : Anchored env loc T a) :
    ∃ x ∈ a, PlacedAt env loc T loc x ∧ ∀ b, x ∈ b → Anchored env loc T b := by
  cases h with
  | field hm hl hc => exact ⟨_, hm, hl, fun _ hb => .field hb hl hc⟩
  | inl hm ha => exact ⟨_, hm, rfl, fun _ hb => .inl hb ha⟩

theorem PlacedAt.unique {env : Env} {pl : Loc} {T : String} {l l' : Loc} {x : Sel} (h : PlacedAt env pl T l x)
    (h' : PlacedAt env pl T l' x) : l = l' := by
  cases x with
  | field => exact Except.ok.inj (h.symm.trans h')
  | inline => exact h.trans h'.symm
  | spread => exact h.trans h'.symm

/-! ### what `groupSelectionSet` puts into the bundle of the current location -/

/-- processed by `extractSelection`, the element leaves at least one client field in the step -/
inductive KeepsOne (env : Env) (loc : Loc) (T : String) : Sel → Prop
  | field {a n g : String} {gv : List String} {d : List Dir} {t : String} {sub : List Sel} :
      clientField n t → KeepsOne env loc T (.field a n g gv d t sub)
  | inl {c : String} {d : List Dir} {sub : List Sel} :
      Anchored env loc (if c == "" then T else c) sub → KeepsOne env loc T (.inline c d sub)

/-- **an anchored selection leaves, in the bundle of the current location, an element that keeps a client field** -/
theorem group_keeps {env : Env} {pl : Loc} {T : String} {sf : List FragDef} :
    ∀ (sels : List Sel) (acc res : Buckets Sel × Buckets FragDef), noSpreadL sels = true → Anchored env pl T sels →
      group env pl T sf sels acc = .ok res → ∃ y ∈ res.1.get pl, KeepsOne env pl T y := by
  intro sels acc res _ ha h
  obtain ⟨_, fs, ins⟩ := group_complete sels acc res h
  cases ha with
  | field hm hl hc =>
    obtain ⟨l, hl', hmem⟩ := fs _ _ _ _ _ _ _ hm
    cases Except.ok.inj (hl.symm.trans hl')
    exact ⟨_, hmem, .field hc⟩
  | inl hm ha' =>
    -- the member anchoring the fragment's children goes, inside a copy of the fragment, to the bundle of `pl`
    obtain ⟨x, hx, hpl, hanch⟩ := ha'.witness
    obtain ⟨l, ss, hl, hss, hmem⟩ := ins _ _ _ hm x hx
    cases hpl.unique hl
    exact ⟨_, hmem, .inl (hanch ss hss)⟩

/-- what is in what the loop went through is, processed, in what it returns -/
theorem SelSteps.of_mem {R : Call} {cfg : Cfg} {localFrags : List FragDef} {ss ss' : List Sel} {st st' : St}
    (h : SelSteps R cfg localFrags ss st ss' st') {y : Sel} (hy : y ∈ ss) :
    ∃ st0 y' st1, SelStep R cfg localFrags y st0 y' st1 ∧ y' ∈ ss' := by
  induction h with
  | nil => cases hy
  | cons h1 _ ih =>
    rcases List.mem_cons.1 hy with rfl | hy
    · exact ⟨_, _, _, h1, List.mem_cons_self ..⟩
    · obtain ⟨st0, y', st1, h, hm⟩ := ih hy
      exact ⟨st0, y', st1, h, List.mem_cons_of_mem _ hm⟩

/-- one call of `extractSelection` on an anchored selection keeps at least one of the client's fields -/
def RecKept (env : Env) (rec : Cfg → St → Except Err (List Sel × St)) : Prop :=
  ∀ cfg st sel st', rec cfg st = .ok (sel, st') → noSpreadL cfg.sel = true →
    Anchored env cfg.loc cfg.parentType cfg.sel → 1 ≤ cfcL sel

theorem extract_kept (env : Env) : ∀ (fuel : Nat), RecKept env (extract env fuel) := by
  refine fun fuel => extract_induct (motive := fun cfg _ sel _ => noSpreadL cfg.sel = true →
    Anchored env cfg.loc cfg.parentType cfg.sel → 1 ≤ cfcL sel) ?_ fuel
  intro cfg st lf lfr st1 sel st' hg _ hp hns ha
  obtain ⟨y, hy, hkeep⟩ := group_keeps cfg.sel ([], []) (lf, lfr) hns ha hg
  have hyc : y ∈ current cfg lf := List.mem_append_left _ hy
  obtain ⟨st0, y', st1', h1, hm⟩ := hp.of_mem hyc
  refine Nat.le_trans ?_ (cfc_le_cfcL hm)
  have hsn := current_noSpread hg hns y hyc
  cases hkeep with
  | field hc => cases h1 <;> simp only [cfc, clientField_count hc] <;> omega
  | inl ha' =>
    cases h1 with
    | inline hr => exact hr hsn ha'

/-! ### what is queued is anchored at the location it is queued for -/
def QueueAnchored (env : Env) (queue : List Payload) : Prop := ∀ p ∈ queue, Anchored env p.location p.parentType p.sel

theorem clientField_of_unmarked {a n g : String} {gv : List String} {d : List Dir} {t : String} {sub : List Sel}
    (h : unmarked (.field a n g gv d t sub) = true) : clientField n t := by
  intro hc
  simp [unmarked, hc.1, hc.2] at h

/-- what of an unmarked selection is bundled for another location is anchored there: the chooser, asked again from the
    location it chose, chooses it again -/
theorem grouped_anchored {env : Env} {pl : Loc} {T : String} {sf : List FragDef} {sels : List Sel} {l : Loc} {ss : List Sel}
    (hns : noSpreadL sels = true) (hu : unmarkedL sels = true) (hne : ss ≠ []) (hl : l ≠ pl)
    (h : ∀ s ∈ ss, GroupedAt env pl T sf sels l s) : Anchored env l T ss := by
  obtain ⟨x, hx⟩ := List.exists_mem_of_ne_nil _ hne
  cases h x hx with
  | field hm hloc => exact .field hx (locate_stable hloc) (clientField_of_unmarked (unmarkedL_iff.1 hu _ hm))
  | spread hm _ _ => exact absurd (noSpreadL_iff.1 hns _ hm) (by simp [noSpread])
  | @inline c d sub ss' hm hp =>
    refine .inl hx ?_
    obtain ⟨y, hy⟩ := List.exists_mem_of_ne_nil _ hp.1
    have hsub : unmarkedL sub = true := by simpa [unmarked] using unmarkedL_iff.1 hu _ hm
    cases y with
    | field a n g gv dd t s =>
      exact .field hy (locate_stable (hp.2 _ hy).2) (clientField_of_unmarked (unmarkedL_iff.1 hsub _ (hp.2 _ hy).1))
    | inline => exact absurd (hp.2 _ hy).2 hl
    | spread => exact absurd (hp.2 _ hy).2 hl

theorem anchored_nestIn {env : Env} {l : Loc} : ∀ (ws inner : List Sel) (T : String), inlineOnly ws = true →
    Anchored env l (typeAfter T ws) inner → Anchored env l T (nestIn ws inner)
  | [], _, _, _, h => h
  | .inline c d s :: ws, inner, T, hw, h => .inl (List.mem_singleton.2 rfl) (anchored_nestIn ws inner _ hw h)
  | .spread .. :: _, _, _, hw, _ => by simp [inlineOnly] at hw
  | .field .. :: _, _, _, hw, _ => by simp [inlineOnly] at hw

def RecAnch (env : Env) (rec : Cfg → St → Except Err (List Sel × St)) : Prop :=
  ∀ cfg st sel st', rec cfg st = .ok (sel, st') → noSpreadL cfg.sel = true → unmarkedL cfg.sel = true →
    inlineOnly cfg.wrapper = true → typeAfter cfg.parentType cfg.wrapper = cfg.parentType →
    QueueAnchored env st.queue → QueueAnchored env st'.queue

theorem extract_anch (env : Env) : ∀ (fuel : Nat), RecAnch env (extract env fuel) := by
  intro fuel cfg st sel st' h hns hu hw hT hq
  refine extract_forall_queue (C := fun c => unmarkedL c.sel = true ∧ TypeKept c)
    (X := fun p => Anchored env p.location p.parentType p.sel) ?_ ?_ ?_ h ⟨hns, hw⟩ ⟨hu, hT⟩ hq
  · exact fun hn hc hg hs => (calls_unmarked hc.1 hg hs).and (calls_typeKept hn.2 hc.2 _)
  · exact fun hn hc hg hm hl => anchored_nestIn _ _ _ hn.2
      (hc.2.symm ▸ grouped_anchored hn.1 hc.1 (group_noEmpty hg _ _ hm) hl (group_grouped hg _ _ hm))
  · exact fun o _ ho _ _ => ho.mono fun y hy => by
      obtain ⟨extra, h1, _⟩ := appendNew_spec _ o.sel
      exact h1 ▸ List.mem_append_left _ hy

/-! ## Part 4: the work list -/

/-- what holds of the pending steps once the root step has been built -/
structure Pending (env : Env) (D : Nat) (queue : List Payload) : Prop where
  ns : QueueNoSpread queue
  un : QueueUnmarked queue
  dp : QueueDepth D queue
  an : QueueAnchored env queue

theorem Pending.nil {env : Env} {D : Nat} : Pending env D [] := by
  constructor <;> intro _ h <;> cases h

theorem Pending.tail {env : Env} {D : Nat} {p : Payload} {rest : List Payload} (h : Pending env D (p :: rest)) : Pending env D rest :=
  ⟨fun o ho => h.ns o (List.mem_cons_of_mem _ ho), fun o ho => h.un o (List.mem_cons_of_mem _ ho),
   fun o ho => h.dp o (List.mem_cons_of_mem _ ho), fun o ho => h.an o (List.mem_cons_of_mem _ ho)⟩

/-- one more step built: what is pending afterwards, and how much of it -/
theorem extract_pending {env : Env} {D fuel : Nat} {p : Payload} {rest : List Payload} {next : Nat} {sel : List Sel} {st : St}
    (hns : noSpreadL p.sel = true) (hu : unmarkedL p.sel = true) (hd : depthL p.sel ≤ D) (hrest : Pending env D rest)
    (he : extract env fuel (stepCfg next p) { vars := [], frags := [], queue := rest } = .ok (sel, st)) :
    Pending env D st.queue ∧ waiting st.queue + cfcL sel ≤ waiting rest + cfcL p.sel :=
  ⟨⟨extract_noSpread he hns rfl hrest.ns,
    extract_unmarked env fuel _ _ _ _ he hns hu rfl hrest.un,
    extract_depth env D fuel _ _ _ _ he hns rfl (by simpa using hd) hrest.dp,
    extract_anch env fuel _ _ _ _ he hns hu rfl rfl hrest.an⟩,
   extract_acct env fuel _ _ _ _ he hns rfl⟩

theorem buildSteps_no_fuel (env : Env) (fuel D : Nat) (hD : D < fuel) :
    ∀ (k next : Nat) (queue : List Payload) (acc : List Step), Pending env D queue → waiting queue < k →
      buildSteps env fuel k next queue acc ≠ .error .fuel
  | 0, _, _, _, _, hk => absurd hk (Nat.not_lt_zero _)
  | _ + 1, _, [], acc, _, _ => by simp [buildSteps]
  | k + 1, next, p :: rest, acc, hp, hk => by
    have hns := hp.ns p (List.mem_cons_self ..)
    simp only [buildSteps]
    split
    · rename_i e he
      intro h
      cases h
      exact extract_fuel env fuel _ _ hns (Nat.lt_of_le_of_lt (hp.dp p (List.mem_cons_self ..)) hD) he
    · rename_i sel st he
      obtain ⟨hpend, hacct⟩ := extract_pending hns (hp.un p (List.mem_cons_self ..)) (hp.dp p (List.mem_cons_self ..)) hp.tail he
      -- the step keeps one of the client's fields for itself, so fewer are waiting
      have hkept : 1 ≤ cfcL sel := extract_kept env fuel _ _ _ _ he hns (hp.an p (List.mem_cons_self ..))
      simp only [waiting] at hk
      exact buildSteps_no_fuel env fuel D hD k _ _ _ hpend (by omega)

/-- **the planner does not run out of fuel**: with more fuel than the nesting depth of the document and than its number
    of fields plus one, neither a call of `extractSelection` nor the work list of `generatePlans` exhausts it — every
    step after the root keeps at least one of the client's fields, so the fields still waiting strictly decrease -/
theorem planOperation_no_fuel {env : Env} {fuel : Nat} {operation : String} {sels : List Sel}
    (hns : noSpreadL sels = true) (hu : unmarkedL sels = true) (hd : depthL sels < fuel) (hc : cfcL sels + 1 < fuel) :
    planOperation env fuel operation sels ≠ .error .fuel := by
  unfold planOperation
  cases fuel with
  | zero => exact absurd hd (Nat.not_lt_zero _)
  | succ k =>
    -- the root step is built by hand: it is the one pending step that is not anchored
    simp only [buildSteps]
    split
    · rename_i e he
      intro h
      cases h
      exact extract_fuel env (k + 1) _ _ hns hd he
    · rename_i sel st he
      obtain ⟨hpend, hacct⟩ := extract_pending (D := depthL sels) (next := 0)
        (p := ⟨none, "", rootTypeOf operation, [], sels, []⟩) hns hu (Nat.le_refl _)
        .nil he
      simp only [waiting] at hacct
      exact buildSteps_no_fuel env (k + 1) (depthL sels) hd k _ _ _ hpend (by omega)

theorem planOperation_no_fragment {env : Env} {fuel : Nat} {operation : String} {sels : List Sel}
    (hns : noSpreadL sels = true) (name : String) : planOperation env fuel operation sels ≠ .error (.noFragment name) := by
  intro h
  rcases buildSteps_error (motive := fun _ queue _ => QueueNoSpread queue)
    (fun _ p _ _ _ _ hq he => extract_noSpread he (hq p (List.mem_cons_self ..)) rfl fun o ho => hq o (List.mem_cons_of_mem _ ho))
    _ _ _ _ h (fun p hp => by rw [List.mem_singleton.1 hp]; exact hns) with he | ⟨next, p, queue, _, hq, he⟩
  · cases he
  · exact extract_no_fragment env fuel _ _ name (hq p (List.mem_cons_self ..)) he

/-- **A routed document without named fragments gets a plan.** -/
theorem planOperation_total {env : Env} (hr : RoutesNonempty env) {fuel : Nat} {operation : String} {sels : List Sel}
    (hns : noSpreadL sels = true) (hu : unmarkedL sels = true) (hrt : routedL env (rootTypeOf operation) sels = true)
    (hd : depthL sels < fuel) (hc : cfcL sels + 1 < fuel) :
    ∃ steps, planOperation env fuel operation sels = .ok steps := by
  cases h : planOperation env fuel operation sels with
  | ok steps => exact ⟨steps, rfl⟩
  | error e =>
    rcases (planOperation_error_benign hr h).cases with ⟨t, f, rfl⟩ | ⟨n, rfl⟩ | rfl
    · exact absurd h (planOperation_routed hns hrt t f)
    · exact absurd h (planOperation_no_fragment hns n)
    · exact absurd h (planOperation_no_fuel hns hu hd hc)

/-! ## Part 5: no client field is asked for twice (C13) -/

/-- the client's fields in the steps built so far, counted with multiplicity -/
def asked : List Step → Nat
  | [] => 0
  | s :: ss => cfcL s.sel + asked ss

theorem asked_append : ∀ (a b : List Step), asked (a ++ b) = asked a + asked b
  | [], b => by simp [asked]
  | x :: a, b => by simp only [List.cons_append, asked, asked_append a b]; omega

/-- **No client field is asked for twice**: over all steps of the plan, the client's fields the steps ask their
    services for — counted with multiplicity — are at most the fields of the client's document.  With
    `planOperation_covers` (every requested leaf is asked for by some step) each is asked for exactly once. -/
theorem planOperation_no_field_twice {env : Env} {fuel : Nat} {operation : String} {sels : List Sel} {steps : List Step}
    (hns : noSpreadL sels = true) (h : planOperation env fuel operation sels = .ok steps) :
    asked steps ≤ cfcL sels := by
  -- what has been asked plus what is waiting never grows
  have ⟨_, _, hm⟩ := buildSteps_induct (motive := fun _ queue acc => QueueNoSpread queue ∧ asked acc + waiting queue ≤ cfcL sels)
    ?_ _ _ _ _ _ h ⟨fun p hp => by rw [List.mem_singleton.1 hp]; exact hns, by simp [asked, waiting]⟩
  · simpa [waiting] using hm
  intro next p queue acc sel st ⟨hq, hm⟩ he
  have hp := hq p (List.mem_cons_self ..)
  have := extract_acct env fuel _ _ _ _ he hp rfl
  refine ⟨extract_noSpread he hp rfl fun o ho => hq o (List.mem_cons_of_mem _ ho), ?_⟩
  simp only [asked_append, asked, waiting] at hm this ⊢
  omega

/-! ## Part 6: no step without a client field (C13) -/

/-- **every step other than the root asks its service for at least one of the client's fields**: the planner never
    makes a step that only carries plumbing (a hop that fetches nothing the client asked for) -/
theorem planOperation_no_empty_step {env : Env} {fuel : Nat} {operation : String} {sels : List Sel} {steps : List Step}
    (hns : noSpreadL sels = true) (hu : unmarkedL sels = true) (h : planOperation env fuel operation sels = .ok steps) :
    ∀ s ∈ steps, s.id ≠ 0 → 1 ≤ cfcL s.sel := by
  -- before the root step is built nothing is; afterwards the pending steps are anchored, so each keeps a field
  have ⟨_, hm⟩ := buildSteps_induct (motive := fun next queue acc =>
      (next = 0 ∧ acc = [] ∧ queue = [⟨none, "", rootTypeOf operation, [], sels, []⟩]) ∨
      (1 ≤ next ∧ Pending env (depthL sels) queue ∧ ∀ s ∈ acc, s.id ≠ 0 → 1 ≤ cfcL s.sel)) ?_ _ _ _ _ _ h (Or.inl ⟨rfl, rfl, rfl⟩)
  · rcases hm with ⟨_, rfl, hq⟩ | ⟨_, _, hm⟩
    · cases hq
    · exact hm
  intro next p queue acc sel st hm he
  refine Or.inr ⟨Nat.succ_le_succ (Nat.zero_le _), ?_⟩
  rcases hm with ⟨rfl, rfl, hq⟩ | ⟨hn, hp, hacc⟩
  · cases hq
    refine ⟨(extract_pending hns hu (Nat.le_refl _) .nil he).1, fun s hs hid => ?_⟩
    rw [List.mem_singleton.1 hs] at hid
    exact absurd rfl hid
  · have hpn := hp.ns p (List.mem_cons_self ..)
    refine ⟨(extract_pending hpn (hp.un p (List.mem_cons_self ..)) (hp.dp p (List.mem_cons_self ..)) hp.tail he).1, fun s hs hid => ?_⟩
    rcases List.mem_append.1 hs with hs | hs
    · exact hacc s hs hid
    · rw [List.mem_singleton.1 hs]
      exact extract_kept env fuel _ _ _ _ he hpn (hp.an p (List.mem_cons_self ..))

end Pl
