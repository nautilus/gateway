import GwModel.FindPtsStitch
/-! What the built-in scrubber does to the response (middlewares.go `scrubInsertionIDs`): for every listed
    location the realised points are searched in the response (`Fp.findPts`, against the client's own selection),
    the object at each point is fetched with `executorExtractValue` and the field is deleted from it.

    `deleteAt` is that fetch-and-delete for one realised point (same walk as `Ins.insertAt`, which models
    `executorExtractValue`); `scrubLocation` folds it (`scrubOne`) over the points found for one location.  Proved:
    the object at every scrubbed point loses exactly the key `id` (key 0) and keeps everything else; every other
    point of the family, and so every other object reached by the location, is untouched — for every response,
    every number of list elements and every order of the deletions.  Tied to middlewares.go by the L2.scrub
    correspondence (harness `scrubcorr.go`). -/
namespace Scr
open Ins Fp

/-- Go's `delete(obj, key)` on the key-ordered association list (same scanning discipline as `lookup`/`put`) -/
def erase (k : Nat) : KVs → KVs
  | [] => []
  | (k', v) :: r => if k = k' then r else if k < k' then (k', v) :: r else (k', v) :: erase k r

/-- the end of one scrub: "Can not scrub field from non object" -/
def delFinish : J → Option J
  | .obj kvs => some (.obj (erase 0 kvs))
  | _ => none

def deleteAt : J → List Pt → Option J
  | x, [] => delFinish x
  | .obj kvs, ⟨f, none⟩ :: rest =>
    (deleteAt (childOf kvs f) rest).map fun c => .obj (put f c kvs)
  | .obj kvs, ⟨f, some i⟩ :: rest =>
    match lookup f kvs with
    | none => (updAt [] i fun e => deleteAt e rest).map fun l => .obj (put f (.arr l) kvs)
    | some (.arr l0) => (updAt l0 i fun e => deleteAt e rest).map fun l => .obj (put f (.arr l) kvs)
    | some _ => none
  | _, _ :: _ => none

theorem lookup_erase_self : ∀ {l : KVs}, Sorted l → lookup 0 (erase 0 l) = none
  | [], _ => rfl
  | (k', v) :: r, h => by
    simp only [erase]
    by_cases hk : 0 = k'
    · subst hk
      simp only [if_true]
      -- the rest holds larger keys only
      cases r with
      | nil => rfl
      | cons y ys =>
        obtain ⟨k2, v2⟩ := y
        have : 0 < k2 := (sorted_cons.1 h).1 k2 (by simp)
        simp only [lookup]
        have h1 : ¬ (0 = k2) := by omega
        simp [h1, this]
    · have hlt : 0 < k' := by omega
      simp only [hk, if_false, hlt, if_true, lookup]

theorem lookup_erase_other {k : Nat} (hk : k ≠ 0) : ∀ {l : KVs}, Sorted l → lookup k (erase 0 l) = lookup k l
  | [], _ => rfl
  | (k', v) :: r, h => by
    simp only [erase]
    by_cases h0 : 0 = k'
    · subst h0
      simp only [if_true]
      have : ¬ (k = 0) := hk
      have hlt : ¬ (k < 0) := by omega
      simp [lookup, this, hlt]
    · have hlt : 0 < k' := by omega
      simp only [h0, if_false, hlt, if_true]

theorem deleteAt_eq_modAt : ∀ (p : List Pt) (x : J), deleteAt x p = modAt delFinish x p
  | [], x => by rw [deleteAt, modAt]
  | ⟨f, none⟩ :: rest, .obj kvs => by rw [deleteAt, modAt, deleteAt_eq_modAt rest]
  | ⟨f, some i⟩ :: rest, .obj kvs => by
    rw [deleteAt, modAt, funext (deleteAt_eq_modAt rest)]; rfl
  | _ :: _, .null | _ :: _, .leaf _ | _ :: _, .arr _ => by simp only [deleteAt, modAt]

theorem deleteAt_walk : ∀ (suf : List RPt) (x : J) (o : KVs), walk x suf = some (.obj o) →
    ∃ x', deleteAt x (suf.map toPt) = some x' ∧ walk x' suf = some (.obj (erase 0 o))
  | suf, x, o, h => by
    obtain ⟨x', hm, hw, _⟩ := modAt_spec delFinish suf x o _ h rfl
    exact ⟨x', by rw [deleteAt_eq_modAt]; exact hm, hw⟩

/-- **frame**: a deletion at one point leaves what another point, parting from it at a list index, leads to -/
theorem deleteAt_frame : ∀ (p q : List RPt) (x : J) (op oq : KVs),
    walk x p = some (.obj op) → walk x q = some (.obj oq) → Parts p q →
    ∃ x', deleteAt x (p.map toPt) = some x' ∧ walk x' q = some (.obj oq)
  | p, q, x, op, oq, hp, hq, h => by
    obtain ⟨x', hm, _, hfr⟩ := modAt_spec delFinish p x op _ hp rfl
    exact ⟨x', by rw [deleteAt_eq_modAt]; exact hm, by rw [hfr q h, hq]⟩

def scrubOne (acc : Option J) (p : List RPt) : Option J := acc.bind fun x => deleteAt x (p.map toPt)

theorem scrubOne_eq : scrubOne = modOne fun _ => delFinish := by
  funext acc p; simp only [scrubOne, modOne, deleteAt_eq_modAt]

/-- **scrubbing one location.**  `paths`: places that pairwise part at a list index (what `findPts` realises for one
    location: `findPts_nodup`, `findPts_pairwise_parts`), each leading to an object.  Deleting at any sub-list of
    them, in any order, each once: every deletion succeeds, the object at each scrubbed place is what it was minus
    the key `id`, and every other place is untouched. -/
theorem scrub_abstract (paths : List (List RPt)) (hsigs : (paths.map sig).Nodup)
    (hparts : ∀ p ∈ paths, ∀ q ∈ paths, sig p ≠ sig q → Parts p q) :
    ∀ (l : List (List RPt)) (x : J), (∀ p ∈ l, p ∈ paths) → (l.map sig).Nodup →
      (∀ q ∈ paths, ∃ o, walk x q = some (.obj o)) →
      ∃ final, l.foldl scrubOne (some x) = some final ∧
        (∀ q ∈ paths, ∃ o, walk final q = some (.obj o)) ∧
        (∀ p ∈ l, ∀ o, walk x p = some (.obj o) → walk final p = some (.obj (erase 0 o))) ∧
        (∀ q ∈ paths, sig q ∉ l.map sig → walk final q = walk x q)
  | l, x, hsub, hnd, hx => by
    rw [scrubOne_eq]
    exact fold_abstract paths hsigs hparts _ (fun _ o => erase 0 o) (fun _ _ => rfl) l x hsub hnd hx

/-- `scrubInsertionIDs` for one listed location of a response `chunk`: search, then delete at every point found -/
def scrubLocation (infos : List PInfo) (chunk : KVs) : Option J :=
  match findPts infos chunk [] with
  | .error _ => none
  | .ok paths => paths.foldl scrubOne (some (.obj chunk))

/-- **the scrubber removes the join id from exactly the objects a listed location leads to.**  For a response whose
    kinds are as the selection promises (`Conf`): the search succeeds, every deletion succeeds, and each object the
    location leads to — in every list element, at every depth — is afterwards what it was before minus the key `id`. -/
theorem scrubLocation_exact (infos : List PInfo) (chunk : KVs) (paths : List (List RPt))
    (hfind : findPts infos chunk [] = .ok paths) (hc : Conf infos chunk) :
    ∃ final, scrubLocation infos chunk = some final ∧
      ∀ p ∈ paths, ∃ o, walk (.obj chunk) p = some (.obj o) ∧ walk final p = some (.obj (erase 0 o)) := by
  have hgood := findPts_good infos chunk [] paths hfind hc
  have hobj : ∀ q ∈ paths, ∃ o, walk (.obj chunk) q = some (.obj o) := by
    intro q hq
    obtain ⟨suf, hpath, _, o, hw, _⟩ := hgood q hq
    simp only [List.nil_append] at hpath
    subst hpath
    exact ⟨o, hw⟩
  obtain ⟨final, hfold, _, hmine, _⟩ :=
    scrub_abstract paths (findPts_nodup infos chunk [] paths hfind) (findPts_pairwise_parts infos chunk [] paths hfind)
      paths (.obj chunk) (fun p hp => hp) (findPts_nodup infos chunk [] paths hfind) hobj
  refine ⟨final, ?_, ?_⟩
  · simp only [scrubLocation, hfind]; exact hfold
  · intro p hp
    obtain ⟨o, hw⟩ := hobj p hp
    exact ⟨o, hw, hmine p hp o hw⟩

end Scr
