import GwModel.InsertMerge
/-! `updAt` by its two equations (entry 0 / a later entry of the padded list).  Updates of two entries commute, two
    updates of one entry compose, and an update keeps the entries well-formed if what it does to one entry does. -/
namespace Ins

/-- entry 0 of a list padded with `{}` -/
def hd : List J → J
  | [] => .obj []
  | x :: _ => x

@[simp] theorem hd_cons (x : J) (xs : List J) : hd (x :: xs) = x := rfl

theorem updAt_zero (l : List J) (F : J → Option J) : updAt l 0 F = (F (hd l)).map (· :: l.tail) := by
  cases l <;> rfl

theorem updAt_succ (l : List J) (i : Nat) (F : J → Option J) :
    updAt l (i + 1) F = (updAt l.tail i F).map (hd l :: ·) := by
  cases l <;> rfl

theorem wf_hd {l : List J} (hl : ∀ x ∈ l, WF x) : WF (hd l) := by
  cases l with
  | nil => exact wf_empty
  | cons x xs => exact hl x (List.mem_cons_self ..)

theorem updAt_congr {F G : J → Option J} (h : ∀ e, WF e → F e = G e) : ∀ (i : Nat) (l : List J), (∀ x ∈ l, WF x) →
    updAt l i F = updAt l i G
  | 0, l, hl => by rw [updAt_zero, updAt_zero, h _ (wf_hd hl)]
  | i + 1, l, hl => by rw [updAt_succ, updAt_succ, updAt_congr h i l.tail fun x hx => hl x (List.mem_of_mem_tail hx)]

theorem updAt_updAt_same {F G : J → Option J} : ∀ (i : Nat) (l : List J),
    (updAt l i F).bind (fun l' => updAt l' i G) = updAt l i (fun e => (F e).bind G)
  | 0, l => by
    rw [updAt_zero, updAt_zero]
    cases F (hd l) <;> simp [updAt_zero]
  | i + 1, l => by
    rw [updAt_succ, updAt_succ, ← updAt_updAt_same i l.tail]
    cases updAt l.tail i F <;> simp [updAt_succ]

theorem updAt_updAt_lt {F G : J → Option J} : ∀ (i j : Nat) (l : List J), i < j →
    (updAt l i F).bind (fun l' => updAt l' j G) = (updAt l j G).bind (fun l' => updAt l' i F)
  | 0, j + 1, l, _ => by
    simp only [updAt_zero, updAt_succ, Option.bind_map, Function.comp_def, hd_cons, List.tail_cons]
    generalize F (hd l) = a
    generalize updAt l.tail j G = b
    cases a <;> cases b <;> rfl
  | i + 1, j + 1, l, h => by
    simpa only [Option.map_bind, Option.bind_map, updAt_succ, hd_cons, List.tail_cons, Function.comp_def]
      using congrArg (Option.map (hd l :: ·)) (updAt_updAt_lt (F := F) (G := G) i j l.tail (Nat.lt_of_succ_lt_succ h))

theorem updAt_updAt_ne {F G : J → Option J} (l : List J) {i j : Nat} (h : i ≠ j) :
    (updAt l i F).bind (fun l' => updAt l' j G) = (updAt l j G).bind (fun l' => updAt l' i F) :=
  (Nat.lt_or_gt_of_ne h).elim (updAt_updAt_lt i j l) fun h => (updAt_updAt_lt j i l h).symm

theorem wf_updAt {F : J → Option J} (hF : ∀ e e', WF e → F e = some e' → WF e') :
    ∀ (i : Nat) (l l' : List J), (∀ x ∈ l, WF x) → updAt l i F = some l' → ∀ x ∈ l', WF x
  | 0, l, l', hl, h => by
    rw [updAt_zero] at h
    obtain ⟨e, he, rfl⟩ := Option.map_eq_some_iff.1 h
    intro x hx
    rcases List.mem_cons.1 hx with rfl | hx
    · exact hF _ _ (wf_hd hl) he
    · exact hl x (List.mem_of_mem_tail hx)
  | i + 1, l, l', hl, h => by
    rw [updAt_succ] at h
    obtain ⟨r, hr, rfl⟩ := Option.map_eq_some_iff.1 h
    intro x hx
    rcases List.mem_cons.1 hx with rfl | hx
    · exact wf_hd hl
    · exact wf_updAt hF i l.tail r (fun z hz => hl z (List.mem_of_mem_tail hz)) hr x hx

/-- an entry that is there is updated in place (no padding) -/
theorem updAt_of_getElem {F : J → Option J} : ∀ {l : List J} {i : Nat} {e e' : J}, l[i]? = some e → F e = some e' →
    updAt l i F = some (l.set i e')
  | [], i, _, _, h, _ => by simp at h
  | x :: xs, 0, e, e', h, hF => by simp at h; subst h; simp [updAt, hF]
  | x :: xs, i + 1, e, e', h, hF => by
    simp at h
    simp [updAt, updAt_of_getElem h hF]

end Ins
