import GwModel.PlanConfined
/-! Placement of planned fields (C20): every field a step asks its service for is one the chooser — configured
    priorities, then the enclosing step's service, then the gateway, then the first service that offers it — assigns
    to that service when asked from that service (or is the join `id`).  An instance of `extract_fields`, like
    confinement. -/
namespace Pl

/-- asked from `loc`, the chooser assigns `type.field` to `loc` -/
def Located (env : Env) (loc : Loc) (type field : String) : Prop := locate env loc type field = .ok loc

mutual
/-- every field of the selection, at every depth, is the join id or is offered by `loc` under the type it is
    selected on; fragment spreads are covered through the step's fragment definitions (`PlacedFrags`) -/
def PlacedSel (env : Env) (loc : Loc) : String → Sel → Prop
  | T, .field _ n _ _ _ typ sub => (n = "id" ∨ Located env loc T n) ∧ PlacedSels env loc typ sub
  | T, .inline c _ sub => PlacedSels env loc (if c == "" then T else c) sub
  | _, .spread _ _ => True
def PlacedSels (env : Env) (loc : Loc) : String → List Sel → Prop
  | _, [] => True
  | T, s :: ss => PlacedSel env loc T s ∧ PlacedSels env loc T ss
end

def PlacedFrags (env : Env) (loc : Loc) (fs : List FragDef) : Prop := ∀ f ∈ fs, PlacedSels env loc f.cond f.sub

mutual
theorem placedSel_iff {env : Env} {loc : Loc} : ∀ (T : String) (s : Sel), PlacedSel env loc T s ↔ FieldsSat (Located env loc) T s
  | T, .field _ n _ _ _ typ sub => by simp only [PlacedSel, FieldsSat, placedSels_iff typ sub]
  | T, .inline c _ sub => by simp only [PlacedSel, FieldsSat, placedSels_iff _ sub]
  | _, .spread _ _ => Iff.rfl
theorem placedSels_iff {env : Env} {loc : Loc} : ∀ (T : String) (l : List Sel), PlacedSels env loc T l ↔ FieldsSatL (Located env loc) T l
  | _, [] => Iff.rfl
  | T, s :: ss => by simp only [PlacedSels, FieldsSatL, placedSel_iff T s, placedSels_iff T ss]
end

theorem placedFrags_iff {env : Env} {loc : Loc} {fs : List FragDef} : PlacedFrags env loc fs ↔ FragsSat (Located env loc) fs :=
  forall₂_congr fun f _ => placedSels_iff f.cond f.sub

theorem placedSels_append {env : Env} {loc : Loc} {T : String} :
    ∀ {a b : List Sel}, PlacedSels env loc T a → PlacedSels env loc T b → PlacedSels env loc T (a ++ b) :=
  fun ha hb => (placedSels_iff ..).2 (fieldsSatL_append ((placedSels_iff ..).1 ha) ((placedSels_iff ..).1 hb))

theorem placedFrags_putFrag {env : Env} {loc : Loc} {d : FragDef} (hd : PlacedSels env loc d.cond d.sub) :
    ∀ {fs : List FragDef}, PlacedFrags env loc fs → PlacedFrags env loc (putFrag d fs) :=
  fun h => placedFrags_iff.2 (fragsSat_putFrag ((placedSels_iff ..).1 hd) (placedFrags_iff.1 h))

/-- asked again from the service it chose, the chooser chooses that service again -/
theorem locate_stable {env : Env} {pl : Loc} {T f : String} {l : Loc} (h : locate env pl T f = .ok l) :
    Located env l T f := by
  unfold Located
  unfold locate at h
  split at h
  · cases h
  · rename_i possible hp
    unfold locate
    rw [hp]
    simp only
    split at h
    · rename_i l' hl
      cases h
      have : Sel.selectLocation Sel.spec possible env.configured l env.internal = some l := by
        unfold Sel.selectLocation at hl ⊢
        show Sel.choose possible (Sel.prioOf [.configured, .parent, .internal] env.configured l env.internal) = some l
        rw [Sel.prioOf_safe]
        have hl' : Sel.choose possible (Sel.prioOf [.configured, .parent, .internal] env.configured pl env.internal) = some l := hl
        rw [Sel.prioOf_safe] at hl'
        exact Sel.choose_stable hl'
      rw [this]
    · cases h

/-- what the induction hypothesis says about a recursive call of `extractSelection` at location `loc` -/
def RecPlaced (env : Env) (loc : Loc) (rec : Cfg → St → Except Err (List Sel × St)) : Prop :=
  ∀ cfg st sel st', rec cfg st = .ok (sel, st') → cfg.loc = loc → PlacedFrags env loc st.frags →
    PlacedSels env loc cfg.parentType sel ∧ PlacedFrags env loc st'.frags

/-- **Placement in `extractSelection`.**  For every amount of fuel, configuration and state: the selection set returned
    for the step and the fragment definitions left behind for it only hold fields the chooser, asked from the step's
    location, places at that location (or the join id). -/
theorem extract_placed (env : Env) : ∀ (fuel : Nat) (loc : Loc), RecPlaced env loc (extract env fuel) := by
  intro fuel loc cfg st sel st' h hl hf
  subst hl
  have := extract_fields (P := Located env) locate_stable h (placedFrags_iff.1 hf)
  exact ⟨(placedSels_iff ..).2 this.1, placedFrags_iff.2 this.2⟩

/-! ### whole plans -/

/-- every field a planned step asks its service for is where the chooser puts it when asked from that service -/
def StepPlaced (env : Env) (s : Step) : Prop :=
  PlacedSels env s.location s.parentType s.sel ∧ PlacedFrags env s.location s.frags

/-- **Every field of every step of every plan is where the rule puts it** (C20), whatever the routing table, the priority
    list, the document and the amount of fuel. -/
theorem planOperation_placed {env : Env} {fuel : Nat} {operation : String} {sels : List Sel} {steps : List Step}
    (h : planOperation env fuel operation sels = .ok steps) : ∀ s ∈ steps, StepPlaced env s :=
  planOperation_forall (fun _ p _ _ _ he => extract_placed env fuel p.location _ _ _ _ he rfl (fun _ hf => nomatch hf)) h

end Pl
