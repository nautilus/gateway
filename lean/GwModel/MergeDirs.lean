/-! Model of `mergeDirectiveListsEqual` (merge.go): are the directives APPLIED to two declarations of one thing (a type,
    a field, an argument, an enum value) the same?  A directive may be applied several times (repeatable directives),
    so the code pairs every application of the first list with an application of its own in the second: it walks the
    first list and marks, in the second, the first not yet marked application that equals it (`matched[i]`).

    One application is compared with `mergeDirectiveEqual` (name, arguments by name and value — `Ms.valuesEqual`, an
    equality); here an application is a value of a type with decidable equality.

    Tied to merge.go by the regenerated fact `merge.directivesPaired` (the exact loop) and by the L2.mergedirs
    correspondence (generated pairs of application lists through `gateway.New`, both service orders). -/
namespace Md

variable {α : Type} [DecidableEq α]

/-- take the first element equal to `a` out of the list (`matched[i] = true` on the first unmatched equal one) -/
def removeFirst (a : α) : List α → Option (List α)
  | [] => none
  | x :: xs => if x = a then some xs else (removeFirst a xs).map (x :: ·)

/-- the loop over the first list -/
def matchAll : List α → List α → Bool
  | [], _ => true
  | a :: as, l2 =>
    match removeFirst a l2 with
    | none => false
    | some l2' => matchAll as l2'

/-- `mergeDirectiveListsEqual`: same length, and every application of the first list finds a partner of its own -/
def listsEqual (l1 l2 : List α) : Bool := l1.length == l2.length && matchAll l1 l2

/-- the comparison without the bookkeeping: every application of the first list only needs SOME equal application
    in the second -/
def listsEqualNoBookkeeping (l1 l2 : List α) : Bool := l1.length == l2.length && l1.all (fun a => l2.contains a)

/-- `removeFirst` is core's `List.erase`, with failure when there is nothing to take out -/
theorem removeFirst_eq (a : α) : ∀ l : List α, removeFirst a l = if a ∈ l then some (l.erase a) else none
  | [] => rfl
  | x :: xs => by
    rw [removeFirst, removeFirst_eq a xs, List.erase_cons]
    by_cases h : x = a
    · simp [h]
    · have h' : ¬ a = x := fun e => h e.symm
      by_cases hm : a ∈ xs <;> simp [h, h', hm]

/-- when the lengths agree, the loop succeeds exactly when the lists are permutations of one another -/
theorem matchAll_iff : ∀ (l1 l2 : List α), l1.length = l2.length → (matchAll l1 l2 = true ↔ l1.Perm l2)
  | [], l2, hl => by rw [List.eq_nil_of_length_eq_zero hl.symm]; exact ⟨fun _ => .nil, fun _ => rfl⟩
  | a :: as, l2, hl => by
    rw [matchAll, removeFirst_eq, List.cons_perm_iff_perm_erase]
    by_cases hm : a ∈ l2
    · have hlen : as.length = (l2.erase a).length := by
        rw [List.length_erase_of_mem hm, ← hl]; rfl
      simp only [hm, if_true, true_and, matchAll_iff as _ hlen]
    · simp [hm]

/-- **the comparison decides "the same applications, each as many times"** -/
theorem listsEqual_iff (l1 l2 : List α) : listsEqual l1 l2 = true ↔ l1.Perm l2 := by
  unfold listsEqual
  constructor
  · intro h
    simp only [Bool.and_eq_true, beq_iff_eq] at h
    exact (matchAll_iff l1 l2 h.1).1 h.2
  · intro h
    simp only [Bool.and_eq_true, beq_iff_eq]
    exact ⟨h.length_eq, (matchAll_iff l1 l2 h.length_eq).2 h⟩

/-- **it does not matter which declaration comes first** -/
theorem listsEqual_symm (l1 l2 : List α) : listsEqual l1 l2 = listsEqual l2 l1 := by
  rw [Bool.eq_iff_iff, listsEqual_iff, listsEqual_iff]
  exact ⟨.symm, .symm⟩

/-- a third declaration compared with either of two equal ones gives the same verdict -/
theorem listsEqual_trans {l1 l2 l3 : List α} (h12 : listsEqual l1 l2 = true) (h23 : listsEqual l2 l3 = true) :
    listsEqual l1 l3 = true :=
  (listsEqual_iff l1 l3).2 (((listsEqual_iff l1 l2).1 h12).trans ((listsEqual_iff l2 l3).1 h23))

/-- without the bookkeeping the verdict depends on the order of the two declarations (kernel-checked) -/
theorem noBookkeeping_is_not_symmetric :
    listsEqualNoBookkeeping [1, 1] [1, 2] = true ∧ listsEqualNoBookkeeping [1, 2] [1, 1] = false := by decide

end Md
