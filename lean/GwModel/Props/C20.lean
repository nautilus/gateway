import GwModel.Select
import GwModel.Gen.Facts
import GwModel.PlanPlaced
import GwModel.NewOpts
import GwModel.UrlMap
/-! # C20 — Multi-homed fields are fetched by priority, then locality

The chooser of plan.go is modelled by `Sel.selectLocation`, instantiated with the priority order extracted
from the source (`Gen.selectLoc`); which expression picks the location for a plain field, for a field of an
inline fragment and for a field of a named fragment is extracted as well (`Gen.chooser*`). -/
namespace Props.C20
open Facts Sel

def ChooserFactsSafe : Prop :=
  Sel.FactsSafe Gen.selectLoc ∧ Gen.chooserPlain = .selectLocation ∧ Gen.chooserNamed = .selectLocation ∧
  Gen.chooserInline = .selectLocation ∧
  -- how New takes its options (model Nw): the options only write fields; the planner installed by then is handed
  -- the priorities after the loop over the options
  Gen.newOpts.plannerSets = true ∧ Gen.newOpts.prioritiesSet = true ∧ Gen.newOpts.handOverAfterOptions = true

instance : Decidable ChooserFactsSafe := by unfold ChooserFactsSafe; exact inferInstance

/-- one chooser, with the order configured priorities → parent → gateway, for all three ways of writing a field -/
theorem facts_safe : ChooserFactsSafe := by decide +kernel

/-- the source denotes the specified rule — the one the driver answers the correspondence with -/
theorem source_is_spec (possible configured : List Loc) (parent internal : Loc) :
    selectLocation Gen.selectLoc possible configured parent internal = selectLocation Sel.spec possible configured parent internal :=
  selectLocation_of_safe facts_safe.1 possible configured parent internal

theorem unfold_select (possible configured : List Loc) (parent internal : Loc) :
    selectLocation Gen.selectLoc possible configured parent internal = choose possible (configured ++ [parent, internal]) :=
  selectLocation_safe facts_safe.1 possible configured parent internal

/-- the first service of the configured priority list that offers the field wins -/
theorem priority_first (possible configured : List Loc) (parent internal p : Loc)
    (hmulti : 2 ≤ possible.length)
    (hp : configured.find? (fun q => decide (q ∈ possible)) = some p) :
    selectLocation Gen.selectLoc possible configured parent internal = some p := by
  rw [unfold_select]; exact choose_priority hmulti hp

/-- without an applicable priority the field stays with the service already being queried, if it offers it -/
theorem then_locality (possible configured : List Loc) (parent internal : Loc)
    (hnone : configured.find? (fun q => decide (q ∈ possible)) = none) (hpar : parent ∈ possible) :
    selectLocation Gen.selectLoc possible configured parent internal = some parent := by
  rw [unfold_select]; exact choose_parent hnone hpar

/-- the gateway's own fields are answered by the gateway -/
theorem gateway_fields_local (possible configured : List Loc) (parent internal : Loc)
    (hmulti : 2 ≤ possible.length)
    (hnone : configured.find? (fun q => decide (q ∈ possible)) = none) (hpar : parent ∉ possible)
    (hint : internal ∈ possible) :
    selectLocation Gen.selectLoc possible configured parent internal = some internal := by
  rw [unfold_select]; exact choose_internal hmulti hnone hpar hint

/-- the choice is a declaring service and is stable under re-asking from the chosen service -/
theorem chosen_declares (possible configured : List Loc) (parent internal l : Loc)
    (h : selectLocation Gen.selectLoc possible configured parent internal = some l) : l ∈ possible :=
  choose_mem h

theorem chosen_stable (possible configured : List Loc) (parent internal l : Loc)
    (h : selectLocation Gen.selectLoc possible configured parent internal = some l) :
    selectLocation Gen.selectLoc possible configured l internal = some l := by
  rw [unfold_select] at h ⊢; exact choose_stable h

/-- **an entry of the configured list that does not offer the field changes nothing, wherever it stands**: a blank,
    a name no service has, a service that does not declare the field — the entries after it keep their rank -/
theorem entries_that_do_not_offer_the_field_are_immaterial (possible pre post : List Loc) (x parent internal : Loc)
    (hx : x ∉ possible) :
    selectLocation Gen.selectLoc possible (pre ++ x :: post) parent internal =
    selectLocation Gen.selectLoc possible (pre ++ post) parent internal := by
  simp only [unfold_select, List.append_assoc, List.cons_append]
  exact choose_skip_irrelevant possible pre _ x hx

/-- **naming a service twice changes nothing**: its first occurrence is its rank and what follows the repetition
    keeps its order (a list that is "cleaned" of repetitions must therefore keep the order of what remains) -/
theorem a_repeated_entry_is_immaterial (possible pre mid post : List Loc) (x parent internal : Loc) :
    selectLocation Gen.selectLoc possible (pre ++ x :: (mid ++ x :: post)) parent internal =
    selectLocation Gen.selectLoc possible (pre ++ x :: (mid ++ post)) parent internal := by
  simp only [unfold_select, List.append_assoc, List.cons_append]
  exact choose_repeat_irrelevant possible pre mid _ x

example : selectLocation Gen.selectLoc ["B", "C"] ["", "C", "B"] "A" "gw" = some "C" ∧
          selectLocation Gen.selectLoc ["B", "C"] ["A", "A", "C", "B"] "A" "gw" = some "C" := by decide +kernel

/-- **the table the chooser reads lists a field's services once per registration, in the order of registration** —
    whatever the locations look like next to one another (one a prefix or a substring of the other) and however long
    the key is (`Um`, the model of FieldURLMap, tied by L2.urlmap) -/
theorem registered_locations_are_listed_in_order (m : Um.Tbl) (parent field : String) (a b : Um.Loc)
    (h : Um.get m (Um.keyFor parent field) = none) :
    Um.urlFor (Um.register m parent field [a, b]) parent field = .ok [a, b] := Um.register_two m parent field a b h

/-- registering a location for one field leaves every other field's list as it was -/
theorem registering_elsewhere_changes_nothing (m : Um.Tbl) (parent field parent' field' : String) (loc : Um.Loc)
    (hne : Um.keyFor parent' field' ≠ Um.keyFor parent field) :
    Um.urlFor (Um.register1 m parent field loc) parent' field' = Um.urlFor m parent' field' :=
  Um.urlFor_register1_other m parent field parent' field' loc hne

/-- **concatenating the tables of the services keeps their order**: a field's list is what the table had followed
    by what the concatenated one has (the order the chooser's fallback "first declared location" relies on) -/
theorem concatenated_tables_keep_the_order_of_the_services (m other : Um.Tbl) (hnd : (other.map (·.1)).Nodup)
    (key : String) (a b : List Um.Loc) (ha : Um.get m key = some a) (hb : other.lookup key = some b) :
    Um.get (Um.concat m other) key = some (a ++ b) := by
  rw [Um.get_concat other hnd m key, ha, hb]

/-- and what was registered is found, as the last entry of the field's list -/
theorem a_registered_location_is_found (m : Um.Tbl) (parent field : String) (loc : Um.Loc) :
    ∃ before, Um.urlFor (Um.register1 m parent field loc) parent field = .ok (before ++ [loc]) := by
  obtain ⟨b, h, _⟩ := Um.urlFor_register1 m parent field loc
  exact ⟨b, h⟩

/-- non-vacuity -/
example : selectLocation Gen.selectLoc ["A", "B", "C"] ["Z", "C", "B"] "A" "gw" = some "C" ∧
          selectLocation Gen.selectLoc ["A", "B"] ["Z"] "B" "gw" = some "B" ∧
          selectLocation Gen.selectLoc ["A", "gw"] [] "B" "gw" = some "gw" := by decide +kernel

/-- **plan level, whole planner** (model `Pl`, tied to plan.go by L1.plan): every field a step asks its service for —
    written plain, inside inline fragments or inside named fragments, at every depth of the step's selection and of the
    fragment definitions it carries — is the join id or a field the rule (configured priorities, then the service
    already being asked, then the gateway, then the first service offering it) assigns to that very service when
    asked from it.  For every routing table, priority list, document and fuel. -/
theorem every_field_is_fetched_where_the_rule_puts_it {env : Pl.Env} {fuel : Nat} {operation : String}
    {sels : List Pl.Sel} {steps : List Pl.Step} (h : Pl.planOperation env fuel operation sels = .ok steps) :
    ∀ s ∈ steps, Pl.PlacedSels env s.location s.parentType s.sel ∧
      ∀ f ∈ s.frags, Pl.PlacedSels env s.location f.cond f.sub :=
  fun s hs => Pl.planOperation_placed h s hs

/-- the rule is stable under re-asking: a field assigned to a service is assigned to it again when asked from it -/
theorem asked_again_chosen_again {env : Pl.Env} {pl : Pl.Loc} {T f : String} {l : Pl.Loc}
    (h : Pl.locate env pl T f = .ok l) : Pl.locate env l T f = .ok l :=
  Pl.locate_stable h

/-- **the configured priorities reach the planner that is installed, wherever its option stands** (`Nw`, the model
    of how `New` takes its options, tied by L2.new-options) -/
theorem priorities_reach_the_installed_planner (p : Nat) (l : List String) (rest : List Nw.Opt)
    (hp : ∀ o ∈ rest, Nw.plannerOf o = none ∧ Nw.prioritiesOf o = none) :
    let b1 := Nw.build (.planner p :: .priorities l :: rest)
    let b2 := Nw.build (.priorities l :: .planner p :: rest)
    b1 = b2 ∧ b1.planner = p ∧ b1.toldPriorities = some l := Nw.priorities_reach_the_planner p l rest hp

/-- … in general: the installed planner is the last one given (else the default) and is told the last priority list -/
theorem the_last_planner_is_told_the_last_priorities (opts : List Nw.Opt) :
    (Nw.build opts).planner = (Nw.lastSome Nw.plannerOf opts).getD 0 ∧
    (Nw.build opts).toldPriorities = Nw.lastSome Nw.prioritiesOf opts := by
  rw [Nw.build_eq]; exact ⟨rfl, rfl⟩

/-- non-vacuity -/
example : (Nw.build [.priorities ["B", "A"], .other, .planner 2]).toldPriorities = some ["B", "A"] ∧
    (Nw.build [.planner 2, .priorities ["B", "A"]]).toldPriorities = some ["B", "A"] := by decide +kernel

end Props.C20
