import GwModel.Trans.Transparent
import GwModel.Gen.Facts
import GwModel.Point
import GwModel.FindPtsStitch
import GwModel.PlanCover
import GwModel.PlanShape
/-! # C01 — Federated execution is transparent: gateway data equals monolith data

Proved here (model `Tr`, GwModel/Trans): for the core query class (fields, aliases, nested selections,
lists, nulls, cyclic references, arbitrary routing of fields to services and an arbitrary chooser) the
meaning of the plan the planner's recursion produces — evaluate the step's selection at its service, then
for every dependent step walk its insertion path through the reply, through lists and skipping nulls,
and merge what it fetches for each object found there — equals the monolith's evaluation.

The full statement for fragments/directives/arguments stays the target (DESIGN §6 C01); beyond the core
class the property is decided at run time by the L0 correspondence against `Mono.mono`. -/
namespace Props.C01
open Tr Facts

/-- planner facts the transparency argument relies on: one chooser for every way of writing a field,
    steps discovered through a local work list, scrub paths computed from the plan's own operation -/
def PlannerFactsSafe : Prop :=
  Gen.planQueue = .localWorklist ∧ Gen.chooserPlain = .selectLocation ∧ Gen.chooserNamed = .selectLocation ∧
  Gen.chooserInline = .selectLocation ∧ Gen.scrub.source = .ownOperation ∧ Gen.scrub.natural = .aliasIsId ∧
  Gen.scrub.deletesField = true

instance : Decidable PlannerFactsSafe := by unfold PlannerFactsSafe; exact inferInstance

theorem facts_safe : PlannerFactsSafe := by decide +kernel

/-- **transparency, core class**: every store, every routing, every chooser, every nesting depth -/
theorem transparent_core (st : Store) (r : Routing) (L T : Nat) (l : List Sel) (o : Obj)
    (h : NodupSels l) :
    applyKids st (splitSels r L T l).2 o (evalSels st o (splitSels r L T l).1 []) = evalSels st o l [] :=
  transparent st r L T l o h

/-- non-vacuity: the smoke-test query has distinct response keys at every level and really is split -/
example : NodupSels qT ∧ (splitSels rT 0 0 qT).2.length = 2 := by
  refine ⟨?_, by decide +kernel⟩
  simp only [qT, NodupSels, NodupSel]; decide +kernel

/-- **insertion points survive their string encoding**: a realised insertion point is rendered as
    `<key>[:<index>][#<id>]` and parsed back by `executorGetPointData`; whatever the id (':' '#' blanks, any
    unicode, empty) and the index, the parts come back unchanged — "no value is attached to the wrong list
    element" does not depend on what ids look like.  (`Pt.parsePoint`/`Pt.isListElement` are tied to execute.go
    by the L2.point correspondence.) -/
theorem point_roundtrip (key : List Char) (idx : Option Nat) (id : Option (List Char))
    (hk1 : '#' ∉ key) (hk2 : ':' ∉ key) :
    Pt.parsePoint (Pt.renderPoint key idx id) = some ⟨key, idx, id.getD []⟩ :=
  Pt.point_roundtrip key idx id hk1 hk2

theorem point_is_list_element_iff_indexed (key : List Char) (idx : Option Nat) (id : Option (List Char))
    (hk0 : key ≠ []) (hk1 : '#' ∉ key) (hk2 : ':' ∉ key) :
    Pt.isListElement (Pt.renderPoint key idx id) = idx.isSome :=
  Pt.isListElement_render key idx id hk0 hk1 hk2

/-- non-vacuity: an id made of separators only -/
example : Pt.parsePoint (Pt.renderPoint "users".toList (some 12) (some "#:#".toList)) = some ⟨"users".toList, some 12, "#:#".toList⟩ :=
  point_roundtrip _ _ _ (by decide +kernel) (by decide +kernel)

/-- **a follow-up answer lands on the object it was fetched for.**  Every insertion path the executor realises
    from a reply that has the promised kinds along the target path (`Fp.Conf`) leads, through that reply, to an
    object whose id is the id recorded in the path (the id the follow-up call is made with); and inserting an
    object payload at that path succeeds and merges it into exactly that object.  This is "no value is attached to
    the wrong list element" for the real `executorFindInsertionPoints` + `executorInsertObject` (models tied to
    execute.go by the L2.findpoints and L2.insert correspondences), for every list length, nesting depth, null
    entry and id. -/
theorem follow_up_lands_on_its_object (infos : List Fp.PInfo) (chunk : Ins.KVs) (paths : List (List Fp.RPt))
    (h : Fp.findPts infos chunk [] = .ok paths) (hc : Fp.Conf infos chunk) (path : List Fp.RPt) (hp : path ∈ paths)
    (inc : Ins.KVs) :
    ∃ o x', Fp.walk (.obj chunk) path = some (.obj o) ∧
      (∀ last, path.getLast? = some last → ∃ id, last.id = some id ∧ Ins.lookup 0 o = some id) ∧
      Ins.insertAt (.obj chunk) (path.map Fp.toPt) (.obj inc) = some x' ∧
      Fp.walk x' path = some (.obj (Ins.mergeK o inc)) := by
  obtain ⟨suf, hsuf, _, o, hw, hlast⟩ := Fp.findPts_good infos chunk [] paths h hc path hp
  simp only [List.nil_append] at hsuf
  subst hsuf
  obtain ⟨x', hi, hw'⟩ := Fp.insertAt_walk path (.obj chunk) o inc hw
  exact ⟨o, x', hw, hlast, hi, hw'⟩

/-- **one dependent step, any order, any fan-out: every object gets exactly its own follow-up answer.**
    `paths` are the places `executorFindInsertionPoints` realises for a dependent step in a reply with the promised
    kinds; `payload p` is what the follow-up call for the object at `p` returns; `l` is any selection of the places
    in any order, each once.  All insertions succeed; afterwards the object at each stitched place is the object that
    was there with exactly its own payload merged in, and every place not stitched is as it was.  Nothing is
    attached to the wrong list element, nothing is lost or overwritten by a sibling. -/
theorem every_object_gets_its_own_answer (infos : List Fp.PInfo) (chunk : Ins.KVs) (paths : List (List Fp.RPt))
    (hfind : Fp.findPts infos chunk [] = .ok paths) (hc : Fp.Conf infos chunk) (payload : List Fp.RPt → Ins.KVs)
    (l : List (List Fp.RPt)) (hsub : ∀ p ∈ l, p ∈ paths) (hnd : (l.map Fp.sig).Nodup) :
    ∃ final, l.foldl (Fp.stitchOne payload) (some (.obj chunk)) = some final ∧
      (∀ p ∈ l, ∃ o, Fp.walk (.obj chunk) p = some (.obj o) ∧
        Fp.walk final p = some (.obj (Ins.mergeK o (payload p)))) ∧
      (∀ q ∈ paths, Fp.sig q ∉ l.map Fp.sig → Fp.walk final q = Fp.walk (.obj chunk) q) := by
  have hx : ∀ q ∈ paths, ∃ o, Fp.walk (.obj chunk) q = some (.obj o) := by
    intro q hq
    obtain ⟨suf, hsuf, _, o, hw, _⟩ := Fp.findPts_good infos chunk [] paths hfind hc q hq
    simp only [List.nil_append] at hsuf; subst hsuf
    exact ⟨o, hw⟩
  obtain ⟨final, hfold, _, hmine, hrest⟩ := Fp.step_stitch infos chunk paths hfind payload l (.obj chunk) hsub hnd hx
  refine ⟨final, hfold, ?_, hrest⟩
  intro p hp
  obtain ⟨o, hw⟩ := hx p (hsub p hp)
  exact ⟨o, hw, hmine p hp o hw⟩

/-- **two levels.**  A step's reply `P` is stitched at its own insertion point `ip` into the accumulated response
    (where the object found does not yet hold the field the dependent's path starts with); the places of a dependent
    step are computed from `P` alone, as the executor does; its follow-up answers are then stitched below `ip` in any
    order.  Every insertion succeeds, and each object `P` delivered ends up with exactly its own follow-up answer: the
    places computed from a reply are the right places in the accumulated response. -/
theorem a_step_and_its_follow_ups (acc : Ins.J) (ip : List Fp.RPt) (o P : Ins.KVs) (hPs : Ins.Sorted P)
    (hip : Fp.walk acc ip = some (.obj o)) (i0 : Fp.PInfo) (infos : List Fp.PInfo)
    (hfresh : Ins.lookup i0.key o = none) (paths : List (List Fp.RPt))
    (hfind : Fp.findPts (i0 :: infos) P [] = .ok paths) (hc : Fp.Conf (i0 :: infos) P)
    (payload : List Fp.RPt → Ins.KVs) (l : List (List Fp.RPt)) (hsub : ∀ p ∈ l, p ∈ paths)
    (hnd : (l.map Fp.sig).Nodup) :
    ∃ acc' final, Ins.insertAt acc (ip.map Fp.toPt) (.obj P) = some acc' ∧
      (l.map (ip ++ ·)).foldl (Fp.stitchOne payload) (some acc') = some final ∧
      ∀ p ∈ l, ∃ o', Fp.walk (.obj P) p = some (.obj o') ∧
        Fp.walk final (ip ++ p) = some (.obj (Ins.mergeK o' (payload (ip ++ p)))) :=
  Fp.parent_then_children acc ip o P hPs hip i0 infos hfresh paths hfind hc payload l hsub hnd

/-- **nothing the client asked for is lost by planning** (planner model `Pl`, the whole of plan.go, tied by L1.plan;
    documents without named fragments — inline fragments typed or untyped, nested, with directives, are covered):
    every leaf path of the operation, i.e. the response keys from the root down to a field without sub-selection, is
    found, below the insertion point of some step of the plan, as a leaf path of that step's selection.  For every
    routing table, priority list, wrapper nesting and fuel. -/
theorem no_requested_field_is_lost_by_planning {env : Pl.Env} {fuel : Nat} {operation : String} {sels : List Pl.Sel}
    {steps : List Pl.Step} (h : Pl.planOperation env fuel operation sels = .ok steps) (hns : Pl.noSpreadL sels = true) :
    ∀ x ∈ Pl.leafPathsL sels, ∃ s ∈ steps, ∃ q ∈ Pl.leafPathsL s.sel, x = s.ip ++ q :=
  Pl.planOperation_covers h hns

/-- **every follow-up step is inserted below the step it hangs off** (whole planner model): the insertion point of a
    dependent step extends its parent's — which is what lets the executor search the parent's own reply for the rest
    of the path. -/
theorem follow_ups_are_inserted_below_their_parents {env : Pl.Env} {fuel : Nat} {operation : String} {sels : List Pl.Sel}
    {steps : List Pl.Step} (h : Pl.planOperation env fuel operation sels = .ok steps) :
    ∀ t ∈ steps, ∀ q, t.parent = some q → ∃ s ∈ steps, s.id = q ∧ ∃ rest, t.ip = s.ip ++ rest :=
  Pl.planOperation_ip_below h

/-- non-vacuity: `{ me { firstName ... { lastName } } }` with `lastName` elsewhere: the path me/lastName is asked
    by the step at insertion point [me] -/
example :
    let env : Pl.Env := { routes := [("Query.me", ["A"]), ("User.firstName", ["A"]), ("User.lastName", ["B"])],
                          configured := [], internal := "gw", planFrags := [] }
    let sels : List Pl.Sel := [.field "me" "me" "" [] [] "User"
      [.field "firstName" "firstName" "" [] [] "String" [], .inline "" [] [.field "lastName" "lastName" "" [] [] "String" []]]]
    Pl.noSpreadL sels = true ∧ Pl.leafPathsL sels = [["me", "firstName"], ["me", "lastName"]] ∧
    (Pl.planOperation env 10 "query" sels).toOption.map (fun steps => steps.map fun s => (s.ip, Pl.leafPathsL s.sel)) =
      some [([], [["id"]]), ([], [["me", "firstName"], ["me", "id"]]), (["me"], [["lastName"]])] := by decide +kernel

end Props.C01
