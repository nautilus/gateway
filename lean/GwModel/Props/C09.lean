import GwModel.MergeDef
import GwModel.MergeSchema
import GwModel.Gen.Facts
import GwModel.MergeSig
import GwModel.MergeLocs
/-! # C09 — Incompatible definitions are rejected with an error, never guessed or a crash

Model: `Mg.mergeGroup` folds `mergeDef` (kind guard; object fields unioned with equal signatures on common
names; every other kind must have the same member set with equal signatures) over the definitions the
services give for one name.  A field's signature is its type (name, nullability, list depth), its arguments
with types and deep default values, its own default and its applied directives; enum values and union
members are members with trivial signatures; a directive definition is a member list of its arguments plus
its set of executable locations.  The merge is total by construction in the model (`Option`, no partial
operation); that the Go code has no nil dereference left on these paths is a fact check and is exercised by
the correspondence on the whole difference catalogue in every service order. -/
namespace Props.C09
open Mg Facts

def MergeFactsSafe : Prop :=
  Gen.merge.kindGuard = true ∧ "mergeInterfaces" ∈ Gen.merge.nilGuards ∧ "mergeEnums" ∈ Gen.merge.nilGuards ∧
  Gen.merge.valueCompare = .deep ∧ Gen.merge.directiveListsBothWays = true

instance : Decidable MergeFactsSafe := by unfold MergeFactsSafe; exact inferInstance

theorem facts_safe : MergeFactsSafe := by decide +kernel

/-- the definitions of one name merge iff they are pairwise compatible -/
theorem merges_iff_pairwise_compatible (d : Def) (ds : List Def) (hok : ∀ x ∈ d :: ds, DefOK x) :
    (∃ r, mergeGroup (d :: ds) = some r) ↔ (d :: ds).Pairwise Compat :=
  mergeGroup_char d ds hok

/-- two incompatible definitions anywhere in the group make construction fail — nothing is guessed -/
theorem incompatible_pair_rejected (d : Def) (ds : List Def) (hok : ∀ x ∈ d :: ds, DefOK x)
    (a b : Def) (hsub : [a, b].Sublist (d :: ds)) (hinc : ¬ Compat a b) : mergeGroup (d :: ds) = none :=
  Option.eq_none_iff_forall_ne_some.2 fun r h =>
    hinc (List.pairwise_pair.1 (((mergeGroup_char d ds hok).1 ⟨r, h⟩).sublist hsub))

/-- a different kind is an incompatibility -/
theorem different_kind_incompatible (a b : Def) (h : a.kind ≠ b.kind) : ¬ Compat a b := fun hc => h hc.1

/-- a schema-level failure of any group fails the whole construction -/
theorem group_failure_fails_merge (g : Nat × List Def) (gs : List (Nat × List Def)) (h : mergeGroup g.2 = none) :
    MergeS.mergeGroups (g :: gs) = none := by
  simp [MergeS.mergeGroups, h]

/-- non-vacuity: an object and an input of the same name; two enums with different values -/
example : mergeGroup [⟨1, .object, [⟨0, 7⟩], []⟩, ⟨1, .input, [⟨0, 7⟩], []⟩] = none ∧
          mergeGroup [⟨2, .enum, [⟨0, 0⟩, ⟨1, 0⟩], []⟩, ⟨2, .enum, [⟨0, 0⟩, ⟨5, 0⟩], []⟩] = none ∧
          (mergeGroup [⟨3, .object, [⟨0, 7⟩], []⟩, ⟨3, .object, [⟨0, 7⟩, ⟨1, 8⟩], []⟩]).isSome = true := by decide +kernel

/-- what a signature is made of (`Ms`, the model of mergeTypesEqual / mergeValuesEqual / mergeArgumentDefinitionList,
    tied to merge.go by L2.mergesig): two field types are accepted exactly when they are the same type — name,
    nullability and list structure at every level … -/
theorem types_accepted_iff_identical (a b : Option Ms.Ty) : Ms.typesEqual a b = true ↔ a = b := Ms.typesEqual_iff a b

/-- … two default values exactly when they are the same value — kind, text, and for lists and objects every child's
    name and value, at every depth (so `1` and `"1"`, `[1, 2]` and `[3]`, `{a: 1}` and `{a: 2}` are told apart) … -/
theorem defaults_accepted_iff_identical (a b : Option Ms.V) : Ms.valuesEqual a b = true ↔ a = b := Ms.valuesEqual_iff a b

/-- … and two argument lists only when every argument of the one is, by name, an argument of the other with the same
    type and the same default, and the lists are equally long -/
theorem arguments_accepted_only_if_same {l1 l2 : List Ms.ArgDef} (h : Ms.argDefsEq l1 l2 = true) :
    l1.length = l2.length ∧ ∀ a ∈ l1, ∃ b ∈ l2, b.name = a.name ∧ b.type = a.type ∧ b.default = a.default :=
  Ms.argDefsEq_subset h


/-- **definitions of a directive that differ in an executable location are refused** — in whichever list the
    location is missing -/
theorem directive_definitions_differing_in_an_executable_location_are_refused {α : Type} [DecidableEq α]
    (isTS : α → Bool) (l1 l2 : List α) (x : α) (hx : isTS x = false) (h1 : x ∈ l1) (h2 : x ∉ l2) :
    Ml.mergeLocs isTS l1 l2 = none ∧ Ml.mergeLocs isTS l2 l1 = none := by
  have h := Ml.mergeLocs_refuses isTS l1 l2 x hx h1 h2
  exact ⟨h, by simpa [h] using Ml.mergeLocs_isSome_comm isTS l2 l1⟩

example : Ml.mergeLocs Ml.isTypeSystem ["FIELD", "OBJECT"] ["QUERY", "FIELD"] = none ∧
          Ml.mergeLocs Ml.isTypeSystem ["FIELD"] ["FIELD", "VARIABLE_DEFINITION"] = none := by decide +kernel

end Props.C09
