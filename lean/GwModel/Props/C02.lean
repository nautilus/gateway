import GwModel.Select
import GwModel.StepVars
import GwModel.Gen.Facts
import GwModel.PlanConfined
import GwModel.PlanVars
/-! # C02 — Every outbound query is valid for, and confined to, its target service

Proved on the model: (1) confinement — the location the chooser returns for a field is one of the services
that declare it, for every routing table, priority list and parent (and all three ways of writing a field
go through that chooser: fact-checked); (2) the values sent with a step are exactly the client's values of
the variables the step declares, plus the join id.
Validity of the *text* of each step query against the service's own schema (arguments, fragments carried
⇔ spread, variables declared ⇔ used, operation kind) is decided by the real gqlparser validator inside
every in-process service on every generated case (L0), not by a theorem: a formal semantics of GraphQL
validation is outside this model (DESIGN §9). -/
namespace Props.C02
open Facts

def PlanFactsSafe : Prop :=
  Sel.FactsSafe Gen.selectLoc ∧ Gen.chooserPlain = .selectLocation ∧ Gen.chooserNamed = .selectLocation ∧
  Gen.chooserInline = .selectLocation ∧ Gen.execVarsOnlyStepSet = true ∧ Gen.stepOperationKindFromParentType = true ∧
  "fieldArgs" ∈ Gen.planVarsFrom ∧ "directives" ∈ Gen.planVarsFrom ∧ "spreadDirectives" ∈ Gen.planVarsFrom ∧
  "inlineDirectives" ∈ Gen.planVarsFrom

instance : Decidable PlanFactsSafe := by unfold PlanFactsSafe; exact inferInstance

theorem facts_safe : PlanFactsSafe := by decide +kernel

/-- confinement: a field is only ever sent to a service that declares it -/
theorem field_sent_to_declaring_service (possible configured : List Sel.Loc) (parent internal l : Sel.Loc)
    (h : Sel.selectLocation Gen.selectLoc possible configured parent internal = some l) : l ∈ possible :=
  Sel.choose_mem h

/-- every value that accompanies a step is the client's unchanged value of a variable the step declares,
    or the join id -/
theorem values_sent_are_the_clients {V : Type} (names : List String) (client : List (String × V)) (joinId : Option V)
    (k : String) (v : V) (h : (k, v) ∈ StepVars.stepVars names client joinId) :
    (k ∈ names ∧ client.lookup k = some v) ∨ (k = "id" ∧ joinId = some v) :=
  StepVars.stepVars_sound names client joinId k v h

theorem declared_values_are_sent {V : Type} (names : List String) (client : List (String × V)) (joinId : Option V)
    (k : String) (v : V) (hk : k ∈ names) (hv : client.lookup k = some v) :
    (k, v) ∈ StepVars.stepVars names client joinId :=
  StepVars.stepVars_complete names client joinId k v hk hv

/-- **Confinement of whole plans** (planner model `Pl`, tied to plan.go by the L1.plan correspondence): every
    field, at every depth, of every step's selection set and of the fragment definitions left behind for the
    step is the join id or is listed by the routing table for the service the step is sent to — for every
    routing table, priority list, document (fragments, wrappers, directives, any nesting) and fuel. -/
theorem every_step_asks_only_what_its_service_offers {env : Pl.Env} {fuel : Nat} {operation : String}
    {sels : List Pl.Sel} {steps : List Pl.Step} (h : Pl.planOperation env fuel operation sels = .ok steps) :
    ∀ s ∈ steps, Pl.ConfSels env s.location s.parentType s.sel ∧
      ∀ f ∈ s.frags, Pl.ConfSels env s.location f.cond f.sub :=
  fun s hs => Pl.planOperation_confined h s hs

/-- **Variables declared ⇐ used** (planner model `Pl`): every variable that occurs in an argument or directive
    of a step's selection set, or of a fragment definition the step carries, is among the variable definitions
    of the operation built for that step — for every document, routing table and fuel. -/
theorem every_variable_a_step_uses_is_declared {env : Pl.Env} {fuel : Nat} {operation : String}
    {sels : List Pl.Sel} {steps : List Pl.Step} (h : Pl.planOperation env fuel operation sels = .ok steps) :
    ∀ s ∈ steps, (∀ v ∈ Pl.usedSels s.sel, v ∈ Pl.builtVars s) ∧
      ∀ f ∈ s.frags, ∀ v ∈ Pl.usedSels f.sub, v ∈ Pl.builtVars s :=
  fun s hs => Pl.planOperation_vars h s hs

/-- the operation built for a follow-up step is `node(id: $id) { ... on T { … } }` and declares `$id`; the one built
    for a root step is the step's selection with the step's variables -/
theorem follow_up_operations_declare_the_join_id (s : Pl.Step) (h : Pl.isRootType s.parentType = false) :
    "id" ∈ Pl.builtVars s ∧ ∃ sub, Pl.builtSelection s = [.field "node" "node" "(id: $id)" ["id"] [] "Node" sub] :=
  Pl.dependent_step_declares_id s h

/-- non-vacuity of the plan theorem: `{ me { firstName lastName } }` with `lastName` served elsewhere plans
    into a root step and one dependent step, and the dependent step holds `lastName` only -/
def exEnv : Pl.Env :=
  { routes := [("Query.me", ["A"]), ("User.firstName", ["A"]), ("User.lastName", ["B"]), ("User.id", ["A", "B"])],
    configured := [], internal := "gw", planFrags := [] }
def exSels : List Pl.Sel :=
  [.field "me" "me" "" [] [] "User" [.field "firstName" "firstName" "" [] [] "String" [],
                                      .field "lastName" "lastName" "" [] [] "String" []]]
example : (Pl.planOperation exEnv 10 "query" exSels).toOption.map (fun steps => steps.map (fun s => (s.location, s.parentType, s.ip, s.sel.length))) =
    some [("", "Query", [], 1), ("A", "Query", [], 1), ("B", "User", ["me"], 1)] := by decide +kernel

/-- non-vacuity -/
example : Sel.selectLocation Gen.selectLoc ["B", "C"] ["C"] "A" "gw" = some "C" ∧
    StepVars.stepVars ["s"] [("s", 1), ("t", 2)] (some 7) = [("s", 1), ("id", 7)] := by decide +kernel

end Props.C02
