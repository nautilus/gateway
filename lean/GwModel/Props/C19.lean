import GwModel.Middleware
import GwModel.NewOpts
import GwModel.Gen.Facts
/-! # C19 — Middlewares run exactly once, in order, on success and on failure -/
namespace Props.C19
open Mw Facts

def MwFactsSafe : Prop := Mw.FactsSafe Gen.mw ∧ Gen.requestMwEveryCall = true ∧
  -- how New takes its options (model Nw): WithMiddlewares adds to the list, every other option writes its own field
  Gen.newOpts.middlewaresAdd = true

instance : Decidable MwFactsSafe := by unfold MwFactsSafe; exact inferInstance

/-- gateway.go: scrubber first, user middlewares appended in order, the loop is not guarded by the executor's
    error, a middleware error returns (nil, err), otherwise (result, executeErr); execute.go: request
    middlewares are handed to every queryer that accepts them before each call -/
theorem facts_safe : MwFactsSafe := by decide +kernel

theorem all_run_once_in_order {D E : Type} (ms : List (RMw D E)) (d : D)
    (h : ∀ m ∈ ms, ∀ x, ∃ y, m.run x = .ok y) :
    (runLoop ms d).1 = ms.map (·.id) ∧ ∃ d', (runLoop ms d).2 = .ok d' := runLoop_all_ok ms d h

theorem never_twice_never_out_of_order {D E : Type} (ms : List (RMw D E)) (d : D) :
    ∃ rest, ms.map (·.id) = (runLoop ms d).1 ++ rest := runLoop_log_prefix ms d

theorem first_error_aborts {D E : Type} (pre : List (RMw D E)) (m : RMw D E) (post : List (RMw D E)) (d : D)
    (hpre : ∀ p ∈ pre, ∀ x, ∃ y, p.run x = .ok y) (e : E) (hm : ∀ x, m.run x = .error e) :
    (runLoop (pre ++ m :: post) d).1 = pre.map (·.id) ++ [m.id] ∧ (runLoop (pre ++ m :: post) d).2 = .error e :=
  runLoop_first_failure pre m post d hpre e hm

theorem same_on_success_and_failure {D E : Type} (scrub : RMw D E) (user : List (RMw D E)) (result : D) (e₁ e₂ : List E) :
    (execute scrub user result e₁).1 = (execute scrub user result e₂).1 :=
  execute_log_independent_of_exec_error scrub user result e₁ e₂

theorem scrubber_runs_first {D E : Type} (scrub : RMw D E) (user : List (RMw D E)) (result : D) (ee : List E) :
    (execute scrub user result ee).1.head? = some scrub.id := execute_scrub_first scrub user result ee

theorem data_left_is_data_returned {D E : Type} (scrub : RMw D E) (user : List (RMw D E)) (result d : D) (ee : List E)
    (h : (runLoop (scrub :: user) result).2 = .ok d) : (execute scrub user result ee).2 = (some d, ee) :=
  execute_returns_middleware_data scrub user result d ee h

/-- a failing middleware aborts the request: no data, and its error is returned — after the errors the execution had
    reported, which it does not hide -/
theorem a_failing_middleware_leaves_no_data {D E : Type} (scrub : RMw D E) (user : List (RMw D E)) (result : D)
    (ee : List E) (e : E) (h : (runLoop (scrub :: user) result).2 = .error e) :
    (execute scrub user result ee).2 = (none, ee ++ [e]) := execute_error_no_data scrub user result ee e h

/-- **`New` (model `Nw`, tied by L2.new-options): the middlewares of all `WithMiddlewares` options, in the order
    given, split into response and request middlewares** — two options amount to one with the lists joined, and
    options of other kinds in between change nothing -/
theorem middleware_options_add (pre post : List Nw.Opt) (ms1 ms2 : List Nw.MwRef) :
    Nw.build (pre ++ .middlewares ms1 :: .middlewares ms2 :: post) = Nw.build (pre ++ .middlewares (ms1 ++ ms2) :: post) :=
  Nw.middlewares_add pre post ms1 ms2

theorem middlewares_of_all_options_in_order (opts : List Nw.Opt) :
    (Nw.build opts).response = ((opts.flatMap Nw.mwsOf).filter (·.isResponse)).map (·.id) ∧
    (Nw.build opts).request = ((opts.flatMap Nw.mwsOf).filter (fun m => !m.isResponse)).map (·.id) := by
  rw [Nw.build_eq]; exact ⟨rfl, rfl⟩

theorem option_order_across_kinds_is_immaterial (pre post : List Nw.Opt) (a b : Nw.Opt) (h : Nw.kind a ≠ Nw.kind b) :
    Nw.build (pre ++ a :: b :: post) = Nw.build (pre ++ b :: a :: post) := Nw.build_swap pre post a b h

/-- non-vacuity -/
example : Nw.build [.middlewares [⟨true, 1⟩, ⟨false, 2⟩], .planner 3, .middlewares [⟨true, 4⟩], .priorities ["B"]] =
    { planner := 3, toldPriorities := some ["B"], toldFactory := none, response := [1, 4], request := [2] } := by decide +kernel

/-- non-vacuity: scrubber 0, then 1 (ok), 2 (fails), 3 (never runs) -/
example : (execute (D := Nat) (E := String) ⟨0, fun d => .ok (d + 1)⟩
    [⟨1, fun d => .ok (d * 2)⟩, ⟨2, fun _ => .error "no"⟩, ⟨3, fun d => .ok d⟩] 5 []).1 = [0, 1, 2] := by decide +kernel

end Props.C19
