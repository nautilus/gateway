import GwModel.Batch
import GwModel.InjectBatch
import GwModel.Gen.Facts
/-! # C16 — Batched operations keep their order and equal their single-request answers -/
namespace Props.C16
open Batch Facts

def BatchFactsSafe : Prop :=
  Gen.batch.writeByIndex = true ∧ Gen.batch.waitsAll = true ∧ Gen.batch.plansAllBeforeExecuting = true

instance : Decidable BatchFactsSafe := by unfold BatchFactsSafe; exact inferInstance

/-- each operation writes its own slot (`results[opNum] = r`), and the table is serialised only after
    `opWg.Wait()` -/
theorem facts_safe : BatchFactsSafe := by decide +kernel

/-- whatever order the operations complete in, the i-th element of the response list is the response to the
    i-th operation, i.e. the response that operation gets when sent alone -/
theorem order_independent {O R : Type} (respond : O → R) (ops : List O) (σ : List Nat)
    (hall : ∀ j, j < ops.length → j ∈ σ) :
    runBatch respond ops σ = ops.map (fun o => some (respond o)) :=
  batch_order_independent respond ops σ hall

/-- in particular two completion orders give the same list -/
theorem any_two_orders_agree {O R : Type} (respond : O → R) (ops : List O) (σ₁ σ₂ : List Nat)
    (h₁ : ∀ j, j < ops.length → j ∈ σ₁) (h₂ : ∀ j, j < ops.length → j ∈ σ₂) :
    runBatch respond ops σ₁ = runBatch respond ops σ₂ := by
  rw [order_independent respond ops σ₁ h₁, order_independent respond ops σ₂ h₂]

example : runBatch (fun n : Nat => n * 10) [1, 2, 3] [2, 0, 1] = [some 10, some 20, some 30] := by decide +kernel

/-- **a member of a multipart batch gets from a map path exactly what it gets when it is sent alone** (`InjF`, the model
    of `injectFile`, tied by L2.inject): a batch path `i.<path>` is the path walked in member `i` alone; every other
    member is left as it was -/
theorem a_batch_member_gets_the_file_it_gets_alone (ops : InjF.Ops) (f : Nat) (path path' : String) (p : String) (i : Nat)
    (v : Inj.J) (hparts : InjF.splitDots path = p :: InjF.splitDots path') (hidx : InjF.atoi p = some (Int.ofNat i))
    (hv : ops[i]? = some v) :
    InjF.injectPath ops true f path = (InjF.injectPath [v] false f path').map (fun one => ops.set i (one.headD v)) :=
  InjF.batch_member_gets_what_it_gets_alone ops f path path' p i v hparts hidx hv

/-- non-vacuity (on the parts of the path; that `"1.variables.f"` splits into `"1"` and the parts of `"variables.f"`
    is what `strings.Split` does and is exercised by L2.inject): member 1 of a batch of two gets the file, a member
    that does not exist is refused -/
example :
    ((InjF.afterSelection [.obj [("f", .null)], .obj [("f", .null)]] 7 1 ["variables", "f"]).toOption.bind
      (fun ops => ops[1]?.bind (InjF.getAtGo · ["f"]))).isSome = true ∧
    (InjF.afterSelection [.obj [("f", .null)], .obj [("f", .null)]] 7 2 ["variables", "f"]).toOption.isNone = true := by decide +kernel

end Props.C16
