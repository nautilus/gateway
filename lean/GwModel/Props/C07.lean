import GwModel.ExecFacts
import GwModel.ErrList
import GwModel.Gen.Facts
import GwModel.Exec.ErrOrder
import GwModel.ExecSeq
import GwModel.HttpErrors
import GwModel.Middleware
/-! # C07 — Failures are reported faithfully and stay contained

Machine level (any forest, any failure pattern, any schedule): at return the collector has recorded
exactly the failed calls, each once, and has merged every call's data, failed or not.  Payload level: the
error list is the flattening of the recorded errors.  That a malformed payload cannot crash the stitching
code and that untouched data stays intact is decided by the fault correspondence (all six outcome kinds
per call) until the JSON-level insertion model carries it (DESIGN §6 C07). -/
namespace Props.C07
open ExecM

theorem facts_safe : FactsSafe Gen.exec := by decide +kernel

/-- http.go `formatErrorsWithCode` has the shape `HttpErr.format` models: entries that are not graphql errors are
    rewritten as graphql errors carrying their message (regenerated on every run) -/
theorem http_facts_safe : Gen.httpErrorsKeepMessages = true ∧ Gen.mw.errorAborts = true := by decide +kernel

def cfg : Cfg := cfgOfFacts Gen.exec
theorem cfg_safe : cfg.Safe := cfg_safe_of_facts facts_safe

/-- every failure that occurred is in the list, nothing else is, whatever the schedule -/
theorem errors_are_exactly_the_failed_calls (ts : Tasks) (hwf : WF ts) {s : St} (hr : Reach cfg ts s)
    (hret : s.returned = true) : s.errs.Perm ((List.range ts.length).filter (failedOf ts)) :=
  errors_exact cfg_safe hwf hr hret

/-- … hence empty when none did -/
theorem no_failure_no_error (ts : Tasks) (hwf : WF ts) {s : St} (hr : Reach cfg ts s)
    (hret : s.returned = true) (hok : ∀ t, failedOf ts t = false) : s.errs = [] := by
  have h := errors_exact cfg_safe hwf hr hret
  rw [List.filter_eq_nil_iff.2 fun t _ => Bool.eq_false_iff.1 (hok t)] at h
  exact h.eq_nil

/-- a failing call does not keep other calls' data out: every call is merged before return -/
theorem failed_or_not_every_result_is_merged (ts : Tasks) (hwf : WF ts) {s : St} (hr : Reach cfg ts s)
    (hret : s.returned = true) : ∀ t < ts.length, t ∈ s.order :=
  fun t ht => (returns_after_all_merged cfg_safe hwf hr hret t ht).1

/-- the machine's `done` action records the error and lets `Execute` go on in one step; that is faithful because
    the source records the error first (`errsBeforeDone`, part of `facts_safe`): with that order no schedule
    of collector and `Execute` returns without the error of the last reply … -/
theorem the_error_of_the_last_reply_is_not_lost (as : List ErrOrder.Act) (s : ErrOrder.St) (n : Nat)
    (h : ErrOrder.run (ErrOrder.init [.record, .done]) as = some s) (hr : s.returned = some n) : n = 1 :=
  ErrOrder.record_then_done_never_loses as s n h hr

/-- … and the other order has a schedule that does -/
theorem done_before_recording_can_lose_it :
    (ErrOrder.run (ErrOrder.init [.done, .record]) [.collector, .main, .collector]).map (·.returned) = some (some 0) :=
  ErrOrder.done_then_record_can_lose

/-- data-path level (`Xs.run`, the sequential model of executeOneStep + the collector's stitching, tied to
    execute.go by the L2.exec correspondence): a root call that came back with an error is counted as a failed
    task whatever else it returned (data, malformed data, nothing) and whatever its dependents do afterwards … -/
theorem a_failed_call_is_always_counted (idText : Xs.IdText) (replies : List Xs.Reply) (fuel sid : Nat)
    (strip nodeParent : Bool) (kids : List (List Fp.PInfo × Xs.XStep)) (st : Xs.St) (r : Xs.Reply)
    (hr : Xs.findReply replies sid "" = some r) (herr : r.err = true) :
    st.failed + 1 ≤ (Xs.runTask idText replies (fuel + 1) (.mk sid strip nodeParent kids) [] st).failed :=
  Xs.failed_reply_is_counted idText replies fuel sid strip nodeParent kids st r hr herr

/-- … and no later task, successful or not, takes a recorded failure away -/
theorem failures_are_never_uncounted (idText : Xs.IdText) (replies : List Xs.Reply) (fuel : Nat) (s : Xs.XStep)
    (ip : List Fp.RPt) (st : Xs.St) : st.failed ≤ (Xs.runTask idText replies fuel s ip st).failed :=
  Xs.runTask_failed_le idText replies fuel s ip st

/-- the reported list is the flattening of what was recorded, independent of the order of recording -/
theorem reported_errors_order_independent {α : Type} {a b : List (ErrList.E α)} (h : a.Perm b) :
    (ErrList.accumulate a).Perm (ErrList.accumulate b) := ErrList.accumulate_perm h

/-- **every failure reaches the client with its text** (`HttpErr.format`, the model of `formatErrorsWithCode`, tied by
    `http_facts_safe` and the L0.http-errors channel): the response has one error object per entry of the error the
    execution returned, in order, each carrying that entry's message — also for an entry that is no graphql error
    (a transport failure handed up the way the queryer returned it) -/
theorem every_failure_reaches_the_client_with_its_message (err : HttpErr.Err) (code : String) :
    (HttpErr.format err code).map (·.message) = (HttpErr.entries err code).map (fun e => some e.message) :=
  HttpErr.format_messages err code

/-- **no error the execution reported is hidden by a response middleware** (`Mw.execute`, the model of the tail of
    `Gateway.Execute` after the repair of D65; fact `mw.errorAborts` is the exact loop body): whatever the middlewares
    do — the built-in scrubber tripping over a null at a join included — every error of the execution is among the
    errors returned -/
theorem a_failing_middleware_does_not_hide_the_executions_errors {D E : Type} (scrub : Mw.RMw D E)
    (user : List (Mw.RMw D E)) (result : D) (ee : List E) : ∀ x ∈ ee, x ∈ (Mw.execute scrub user result ee).2.2 :=
  Mw.execute_keeps_exec_errors scrub user result ee

/-- what the code did before that repair: the scrubber's error alone (kernel-checked witness: the service's error
    "db down" is gone) -/
theorem before_the_repair_the_scrubbers_error_replaced_the_services :
    (Mw.executeOld (D := Nat) (E := String) ⟨0, fun _ => .error "Received null for required field"⟩ [] 5 ["db down"]).2.2 =
      ["Received null for required field"] := rfl

/-- what the code did before the repair of D64 (kept as a witness of what the theorem above excludes) -/
theorem before_the_repair_a_transport_failure_lost_its_message :
    HttpErr.formatOld (.list [⟨false, "connection refused", []⟩]) "INTERNAL_SERVER_ERROR" = [{ message := none, path := [], code := none }] :=
  HttpErr.formatOld_loses_message

/-- non-vacuity: a forest with a failing child; the run returns with exactly that error -/
def oneFails : Tasks := [{ parent := none, failed := false }, { parent := some 0, failed := true }]
example : (run cfg oneFails (init oneFails)
    [.eff 0, .eff 0, .eff 0, .recv, .done, .eff 1, .eff 1, .eff 1, .recv, .done, .ret]).map (fun s => (s.returned, s.errs)) = some (true, [1]) := by
  decide +kernel

end Props.C07
