import GwModel.Http
import GwModel.HttpErrors
import GwModel.HttpReq
import GwModel.InjectLemmas
import GwModel.Gen.Facts
/-! # C15 — The HTTP endpoint never crashes and always speaks GraphQL-over-HTTP

The JSON request path of the handler is modelled in `Http` (decoding of bodies into operations the way
encoding/json fills `*HTTPOperation`, per-operation decisions, status), the multipart map in `InjF`.  Both
are total functions: every partial Go operation on these paths (nil operation, slice index, batch index) is
guarded in the source — checked as facts on every run — and is an explicit error in the model.
`encoding/json`, `mime/multipart` and `net/http` themselves are trusted. -/
namespace Props.C15
open Http Facts

def HttpFactsSafe : Prop :=
  Gen.parseRejectsNullOperations = true ∧ "batchIndexRange" ∈ Gen.injectGuards ∧ "indexNonNeg" ∈ Gen.injectGuards ∧
  "indexUpper" ∈ Gen.injectGuards ∧ "partsNonEmpty" ∈ Gen.injectGuards ∧ "leafMustBeNull" ∈ Gen.injectGuards ∧
  Gen.batch.planErrAborts = true ∧ Gen.batch.plansAllBeforeExecuting = true ∧ Gen.httpErrorsKeepMessages = true

instance : Decidable HttpFactsSafe := by unfold HttpFactsSafe; exact inferInstance

theorem facts_safe : HttpFactsSafe := by decide +kernel

/-- **every error object of a response has a message** (the GraphQL specification requires one): whatever error an
    operation ends with — a list with entries of any kind, or a single error — `formatErrorsWithCode` (model
    `HttpErr.format`) writes only objects with a message -/
theorem every_error_object_has_a_message (err : HttpErr.Err) (code : String) :
    ∀ o ∈ HttpErr.format err code, o.message.isSome = true := HttpErr.format_has_message err code

/-- a body that does not decode into operations: 422, one errors entry, nothing executed -/
theorem malformed_body (plannable execOK : OpReq → Bool) (body : Option JV) (e : ParseErr)
    (h : parseOperations body = .error e) : handlePost plannable execOK body = ⟨422, .single .errors, 0⟩ :=
  malformed_body_contacts_nobody plannable execOK body e h

/-- an unplannable operation refuses the whole request with 400 and nothing is executed, batch or not -/
theorem unplannable_request (plannable execOK : OpReq → Bool) (ops : List OpReq) (batch : Bool)
    (h : (ops.filter fun o => !needsQuery o).any (fun o => !plannable o) = true) :
    handleOps plannable execOK ops batch = ⟨400, .single .errors, 0⟩ :=
  unplannable_request_contacts_nobody plannable execOK ops batch h

/-- the status on this path is 200, 400 or 422, and only operations carrying a query or key are executed -/
theorem status_and_executed (plannable execOK : OpReq → Bool) (ops : List OpReq) (batch : Bool) :
    let r := handleOps plannable execOK ops batch
    (r.status = 200 ∨ r.status = 400 ∨ r.status = 422) ∧ r.executed ≤ (ops.filter fun o => !needsQuery o).length :=
  Http.status_and_executed plannable execOK ops batch

/-- `null`, `[null]` and `[{…}, null]` are rejected, not dereferenced; keys match ignoring case -/
example : (parseOperations (some .null)).toOption.isNone = true ∧
          (parseOperations (some (.arr [.null]))).toOption.isNone = true ∧
          (parseOperations (some (.arr [.obj [("query", .str "{a}")], .null]))).toOption.isNone = true ∧
          (parseOperations (some (.obj [("Query", .str "{a}")]))).toOption = some ([⟨"{a}", "", ""⟩], false) ∧
          (parseOperations (some (.obj [("query", .num true)]))).toOption.isNone = true := by
  decide +kernel

/-- the front of the handler (`Http.parseReq`: method, content type, GET parameters; tied by L2.http-front): a
    request that does not parse into operations is refused with 405 or 422, one errors entry, nothing executed -/
theorem refused_request (plannable execOK : OpReq → Bool) (r : Req) (status : Nat) (h : parseReq r = .error status) :
    handleReq plannable execOK r = ⟨status, .single .errors, 0⟩ ∧ (status = 405 ∨ status = 422) :=
  refused_request_contacts_nobody plannable execOK r status h

/-- every response has one of the statuses 200, 400, 405, 422 -/
theorem statuses (plannable execOK : OpReq → Bool) (r : Req) :
    let s := (handleReq plannable execOK r).status
    s = 200 ∨ s = 400 ∨ s = 405 ∨ s = 422 :=
  status_classes plannable execOK r

/-- a GET request whose `variables` is not a JSON object is refused whatever else it carries -/
theorem get_bad_variables (plannable execOK : OpReq → Bool) (p : GetParams) (ct : CType) (body : Option JV)
    (h : getVariablesOK p.variables = false) :
    handleReq plannable execOK ⟨.get, ct, p, body⟩ = ⟨422, .single .errors, 0⟩ :=
  get_with_bad_variables_is_refused plannable execOK p ct body h

/-- non-vacuity -/
example : handleReq (fun _ => true) (fun _ => true)
    ⟨.get, .json, { query := some "{ me { id } }", variables := some (some (.arr [])), operationName := none,
                    extensions := some (some (.obj [])) }, none⟩ = ⟨422, .single .errors, 0⟩ ∧
  handleReq (fun _ => true) (fun _ => true)
    ⟨.get, .json, { query := some "{ me { id } }", variables := some (some (.obj [])), operationName := none,
                    extensions := none }, none⟩ = ⟨200, .single .data, 1⟩ := by decide +kernel

end Props.C15
