import GwModel.Product
import GwModel.ExecFacts
import GwModel.Gen.Facts
/-! # C11 — Requests are isolated and plans are reusable

Model level: an execution is a run of the executor machine `ExecM` whose only inputs are the (immutable)
task forest derived from plan + answers and its own state; n executions over one plan are the product of n
such machines, and every interleaving projects per request to a run of the single machine on that
request's own actions (`product_projects`).  With C05's schedule independence each request therefore ends
like a solitary execution.  What this model cannot exhibit is aliasing inside Go values shared between
requests (the plan's ASTs, queryers, fragment definitions): that clause is decided by the correspondence
only — plan hash before/after, per-call variables and contexts attributed to their request, responses
equal to solitary executions, all under the race detector. -/
namespace Props.C11
open ExecM Product

/-- execute.go's skeleton as the machine assumes it, and gateway.go: `Gateway.Execute` builds a fresh
    `ExecutionContext` per call — the plan chosen for this request and this request's own variables — and never
    assigns to it afterwards (so nothing of one request's context can be seen by another) -/
def IsolationFactsSafe : Prop := FactsSafe Gen.exec ∧ Gen.execContextFresh = true

instance : Decidable IsolationFactsSafe := by unfold IsolationFactsSafe; exact inferInstance

theorem facts_safe : IsolationFactsSafe := by decide +kernel

/-- n concurrent executions over one plan: each request's component evolves by its own actions only -/
theorem executions_do_not_interfere (cfg : Cfg) (ts : Tasks) (sched : List (Nat × Act)) (ss ss' : List St)
    (h : Product.run (pstep (step cfg ts)) ss sched = some ss') (i : Nat) (s : St) (hs : ss[i]? = some s) :
    ∃ s', ss'[i]? = some s' ∧ Product.run (step cfg ts) s (proj i sched) = some s' :=
  product_projects (step cfg ts) sched ss ss' h i s hs

/-- non-vacuity: two executions of the two-task forest interleaved; request 1 ends returned -/
example : (Product.run (pstep (step (cfgOfFacts Gen.exec) two)) [init two, init two]
    [(0, .eff 0), (1, .eff 0), (1, .eff 0), (0, .eff 0), (1, .eff 0), (1, .recv), (0, .eff 0), (1, .done),
     (1, .eff 1), (1, .eff 1), (1, .eff 1), (1, .recv), (1, .done), (1, .ret)]).map
      (fun ss => ss.map (·.returned)) = some [false, true] := by decide +kernel

end Props.C11
