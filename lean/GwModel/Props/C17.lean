import GwModel.OpSelect
import GwModel.Gen.Facts
/-! # C17 — Exactly the named operation is executed, unaffected by its neighbours -/
namespace Props.C17
open OpSelect Facts

def SelFactsSafe : Prop := OpSelect.FactsSafe Gen.opSelect ∧ Gen.scrub.source = .ownOperation

instance : Decidable SelFactsSafe := by unfold SelFactsSafe; exact inferInstance

/-- plan selection has the recognised shape and every plan's scrub table comes from its own operation -/
theorem facts_safe : SelFactsSafe := by decide +kernel

/-- with several operations, exactly the named one is executed — and its plan is the plan that operation
    gets when it is alone in the document (plans are made operation by operation) -/
theorem named_operation_selected {O P : Type} (nameOf : O → String) (planOp : O → P)
    (ops : List O) (o : O) (hmem : o ∈ ops) (hnd : (ops.map nameOf).Nodup) (hname : nameOf o ≠ "")
    (hmany : 2 ≤ ops.length) :
    selectPlan Gen.opSelect (planDoc nameOf planOp ops) (nameOf o) = .ok (planOp o) ∧
    selectPlan Gen.opSelect (planDoc nameOf planOp [o]) (nameOf o) = .ok (planOp o) := by
  constructor
  · rw [selectPlan_many facts_safe.1 (by rw [planDoc, List.length_map]; omega), if_neg hname]
    exact forOperation_map nameOf planOp ops o hmem hnd
  · exact (selectPlan_single facts_safe.1 _ _).trans (if_pos (Or.inr rfl))

/-- a missing name among several operations is an error -/
theorem missing_name_rejected {P : Type} (p q : String × P) (rest : List (String × P)) :
    selectPlan Gen.opSelect (p :: q :: rest) "" = .error .needName :=
  (selectPlan_many facts_safe.1 (by simp) "").trans (if_pos rfl)

/-- an unknown name is an error, also when the document has a single operation -/
theorem unknown_name_rejected {P : Type} (plans : List (String × P)) (name : String)
    (hne : name ≠ "") (h : ∀ p ∈ plans, p.1 ≠ name) : ∃ e, selectPlan Gen.opSelect plans name = .error e := by
  by_cases hl : plans.length = 1
  · obtain ⟨p, rfl⟩ := List.length_eq_one_iff.1 hl
    rw [selectPlan_single facts_safe.1, if_neg (not_or.2 ⟨hne, h p (List.mem_singleton.2 rfl)⟩)]
    exact ⟨_, rfl⟩
  · rw [selectPlan_many facts_safe.1 hl, if_neg hne]
    exact ⟨_, forOperation_unknown plans name h⟩

/-- **names are compared exactly**: of two operations whose names differ only in the case of a letter, the one that is
    named is the one that is executed, and a name that is a case variant of an operation's name without being any
    operation's name selects nothing -/
theorem names_are_compared_exactly {P : Type} (a b : P) :
    selectPlan Gen.opSelect [("Op0", a), ("op0", b)] "op0" = .ok b ∧
    selectPlan Gen.opSelect [("Op0", a), ("op0", b)] "Op0" = .ok a ∧
    (∃ e, selectPlan Gen.opSelect [("Op0", a), ("op0", b)] "OP0" = .error e) ∧
    (∃ e, selectPlan Gen.opSelect [("Op0", a)] "op0" = .error e) :=
  ⟨rfl, rfl, ⟨_, rfl⟩, ⟨_, rfl⟩⟩

/-- non-vacuity -/
example : (selectPlan Gen.opSelect [("A", 1), ("B", 2)] "B").toOption = some 2 ∧
          (selectPlan Gen.opSelect [("A", 1)] "Z").toOption = none := by
  decide +kernel

end Props.C17
