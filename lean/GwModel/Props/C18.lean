import GwModel.InjectLemmas
import GwModel.InjectBatch
import GwModel.Gen.Facts
/-! # C18 — Uploaded files land exactly where the multipart map says -/
namespace Props.C18
open InjF Inj Facts

def InjectFactsSafe : Prop :=
  "batchIndexRange" ∈ Gen.injectGuards ∧ "indexNonNeg" ∈ Gen.injectGuards ∧ "indexUpper" ∈ Gen.injectGuards ∧
  "partsNonEmpty" ∈ Gen.injectGuards ∧ "leafMustBeNull" ∈ Gen.injectGuards

instance : Decidable InjectFactsSafe := by unfold InjectFactsSafe; exact inferInstance

theorem facts_safe : InjectFactsSafe := by decide +kernel

/-- a successful map entry: exactly one operation changes (the one the batch index selects); the position the
    path names held `null` and now holds the file; every other operation is untouched -/
theorem file_lands_where_the_path_says (ops : Ops) (batch : Bool) (f : Nat) (path : String) (ops' : Ops)
    (h : injectPath ops batch f path = .ok ops') :
    ∃ (idx : Nat) (vars vars' : J) (rest : List String),
      ops[idx]? = some vars ∧ ops' = ops.set idx vars' ∧ rest ≠ [] ∧
      getAtGo vars rest = some .null ∧ getAtGo vars' rest = some (.file f) ∧
      (∀ j, j ≠ idx → ops'[j]? = ops[j]?) :=
  injectPath_spec ops batch f path ops' h

/-- inside the variables, an object step leaves every other key alone and a list step every other element -/
theorem other_keys_unchanged (f : Nat) (kvs : List (String × J)) (k : String) (rest : List String)
    (kvs' : List (String × J)) (h : setKeyGo f kvs k rest = .ok kvs') :
    kvs'.map (·.1) = kvs.map (·.1) ∧ ∀ k2, k2 ≠ k → kvs'.lookup k2 = kvs.lookup k2 :=
  setKeyGo_frame f kvs k rest kvs' h

theorem other_elements_unchanged (f : Nat) (xs : List J) (i : Nat) (rest : List String) (xs' : List J)
    (h : setIdxGo f xs i rest = .ok xs') : xs'.length = xs.length ∧ ∀ j, j ≠ i → xs'[j]? = xs[j]? :=
  setIdxGo_frame f xs i rest xs' h

/-- a path that ends at a non-null value, runs through a scalar, leaves a list's range (also with a negative
    index) or names a missing key is an error — never a crash, never a misplaced file -/
example :
    let vars := J.obj [("f", .null), ("fs", .arr [.null, .null]), ("o", .obj [("f", .null)]), ("s", .atom "x")]
    (setAtGo 7 vars ["s"]).toOption.isNone = true ∧ (setAtGo 7 vars ["o"]).toOption.isNone = true ∧
    (setAtGo 7 vars ["fs", "2"]).toOption.isNone = true ∧ (setAtGo 7 vars ["fs", "-1"]).toOption.isNone = true ∧
    (setAtGo 7 vars ["missing"]).toOption.isNone = true ∧ (setAtGo 7 vars ["f", "g"]).toOption.isNone = true ∧
    (setAtGo 7 vars ["fs", "x"]).toOption.isNone = true ∧
    (setAtGo 7 vars ["fs", "1"]).isOk = true ∧ (setAtGo 7 vars ["fs", "+1"]).isOk = true ∧ (setAtGo 7 vars ["o", "f"]).isOk = true := by
  decide +kernel

/-- **a member of a multipart batch gets from a map path exactly what it gets when it is sent alone** (`InjF`, the model
    of `injectFile`, tied by L2.inject): a batch path `i.<path>` is the path walked in member `i` alone; every other
    member is left as it was -/
theorem a_batch_member_gets_the_file_it_gets_alone (ops : InjF.Ops) (f : Nat) (path path' : String) (p : String) (i : Nat)
    (v : Inj.J) (hparts : InjF.splitDots path = p :: InjF.splitDots path') (hidx : InjF.atoi p = some (Int.ofNat i))
    (hv : ops[i]? = some v) :
    InjF.injectPath ops true f path = (InjF.injectPath [v] false f path').map (fun one => ops.set i (one.headD v)) :=
  InjF.batch_member_gets_what_it_gets_alone ops f path path' p i v hparts hidx hv

/-- non-vacuity (on the parts of the path; that `"1.variables.f"` splits into `"1"` and the parts of `"variables.f"`
    is what `strings.Split` does and is exercised by L2.inject): member 1 of a batch of two gets the file, a member
    that does not exist is refused -/
example :
    ((InjF.afterSelection [.obj [("f", .null)], .obj [("f", .null)]] 7 1 ["variables", "f"]).toOption.bind
      (fun ops => ops[1]?.bind (InjF.getAtGo · ["f"]))).isSome = true ∧
    (InjF.afterSelection [.obj [("f", .null)], .obj [("f", .null)]] 7 2 ["variables", "f"]).toOption.isNone = true := by decide +kernel

end Props.C18
