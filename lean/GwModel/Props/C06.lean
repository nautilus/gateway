import GwModel.ExecFacts
import GwModel.Gen.Facts
/-! # C06 — Execution always terminates, after all its work, leaving nothing behind

Model: `ExecM` (GwModel/Exec/Machine.lean) — the goroutine/channel/wait-group skeleton of
`ParallelExecutor.Execute`, `executeStep` and the collector, for an arbitrary task forest `ts`
(one task per (plan step, realised insertion point); `failed` marks calls that err).
The configuration is *read from the source on every run* (`Gen.exec`, produced by gwfacts). -/
namespace Props.C06
open ExecM

/-- the proof obligation that ties the theorems to the current execute.go -/
theorem facts_safe : FactsSafe Gen.exec := by decide +kernel

def cfg : Cfg := cfgOfFacts Gen.exec
theorem cfg_safe : cfg.Safe := cfg_safe_of_facts facts_safe

/-- never blocks forever: every reachable state that has not returned can take a step — for any plan
    size, fan-out and number of failing calls -/
theorem never_blocks (ts : Tasks) (hwf : WF ts) {s : St} (hr : Reach cfg ts s) (h : s.returned = false) :
    ∃ a s', step cfg ts s a = some s' :=
  deadlock_free cfg_safe hwf hr h

/-- and every schedule is finite: at most 5·n+1 machine steps -/
theorem bounded_runs (ts : Tasks) (hwf : WF ts) {s s' : St} {as : List Act}
    (hr : Reach cfg ts s) (h : run cfg ts s as = some s') : as.length + mu ts s' ≤ mu ts s :=
  run_length_bounded cfg_safe hwf as hr h

/-- returns only after every call's result has been merged (and acknowledged) -/
theorem returns_after_everything (ts : Tasks) (hwf : WF ts) {s : St} (hr : Reach cfg ts s)
    (h : s.returned = true) : ∀ t < ts.length, t ∈ s.order ∧ s.held ≠ some t :=
  returns_after_all_merged cfg_safe hwf hr h

/-- no send on a closed channel, no negative wait-group counter -/
theorem never_crashes (ts : Tasks) (hwf : WF ts) {s : St} (hr : Reach cfg ts s) : s.crashed = false :=
  no_crash cfg_safe hwf hr

/-- necessity: with the collector forwarding step errors into its own bounded channel (the shape of the
    code before the repair, D23) 11 failing calls reach a state where nothing can move. -/
def cfgSelfSend : Cfg := { cap := 10, errCap := 10, selfSend := true, order := safeOrder }

/-- non-vacuity: a concrete forest meets the hypotheses and a run reaches `returned` -/
example : WF two ∧ (run cfg two (init two)
    [.eff 0, .eff 0, .eff 0, .recv, .done, .eff 1, .eff 1, .eff 1, .recv, .done, .ret]).map (·.returned) = some true := by
  refine ⟨?_, by decide +kernel⟩
  intro c p h
  match c, h with
  | 0, h => cases h
  | 1, h => cases h; exact Nat.zero_lt_one
  | c + 2, h => cases h

end Props.C06
