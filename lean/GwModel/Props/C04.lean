import GwModel.ScrubLemmas
import GwModel.Gen.Facts
import GwModel.ScrubApply
import GwModel.PlanCover
import GwModel.PlanInject
import GwModel.Middleware
/-! # C04 — Responses hold exactly the requested keys; join ids never leak or vanish

Proved on the model of the scrub-path computation (`Scrub`, mirroring generateScrubFields and generateScrubFieldsWalk and
graphql.ApplyFragments): `FieldsToScrub["id"]` lists exactly those insertion points of the plan at which
the client's flattened selection has no response key `id` (so a client `id`, under any alias position that
keeps the key `id`, is never removed and an injected one always is), each path once.
What the flattening cannot see — `id` requested only under a type condition or @skip/@include — is the
recorded known finding KF-D11 and is excluded by the generator.
The key-set equality of every response object with the monolith's, including partial data under faults,
is decided by the L0 correspondence. -/
namespace Props.C04
open Scrub Facts

def ScrubFactsSafe : Prop :=
  Gen.scrub.source = .ownOperation ∧ Gen.scrub.natural = .aliasIsId ∧ Gen.scrub.deletesField = true ∧
  Gen.mw.scrubFirst = true ∧ Gen.mw.errorAborts = true

instance : Decidable ScrubFactsSafe := by unfold ScrubFactsSafe; exact inferInstance

theorem facts_safe : ScrubFactsSafe := by decide +kernel

/-- exactly the join points where the client did not ask for `id`, each listed once -/
theorem scrub_paths_exact (sel : List S) (roots : List PStep) (ps : List (List String))
    (h : scrubPaths sel roots = some ps) :
    ps.Nodup ∧ (∀ p, p ∈ ps ↔ (∃ t ∈ allStepsL roots, t.ip = p) ∧ NeedsScrub sel p) :=
  scrubPaths_exact sel roots ps h

/-- a requested id is never removed: a path whose selection carries the key `id` is not scrubbed -/
theorem requested_id_kept (sel : List S) (roots : List PStep) (ps : List (List String))
    (h : scrubPaths sel roots = some ps) (p : List String) (target : List S)
    (hw : walkTo sel p = some target) (hid : hasIdKey target = true) : p ∉ ps := by
  intro hp
  obtain ⟨_, _, tg, htg, hno⟩ := ((scrubPaths_exact sel roots ps h).2 p).1 hp
  rw [hw] at htg; cases htg
  rw [hid] at hno; cases hno

/-- **what the scrubber does to the response** (`Scr`, the model of middlewares.go `scrubInsertionIDs`, tied by the
    L2.scrub correspondence): for a listed location and a response with the promised kinds, the join id is deleted
    from exactly the objects the location leads to — in every list element, at every depth — and each of them keeps
    every other key … -/
theorem the_join_id_is_removed_where_listed (infos : List Fp.PInfo) (chunk : Ins.KVs) (paths : List (List Fp.RPt))
    (hfind : Fp.findPts infos chunk [] = .ok paths) (hc : Fp.Conf infos chunk) :
    ∃ final, Scr.scrubLocation infos chunk = some final ∧
      ∀ p ∈ paths, ∃ o, Fp.walk (.obj chunk) p = some (.obj o) ∧ Fp.walk final p = some (.obj (Scr.erase 0 o)) :=
  Scr.scrubLocation_exact infos chunk paths hfind hc

/-- … (an object without its `id` key has no `id`, and every other key is where it was) … -/
theorem erased_object_has_no_id_and_keeps_the_rest {o : Ins.KVs} (h : Ins.Sorted o) :
    Ins.lookup 0 (Scr.erase 0 o) = none ∧ ∀ k, k ≠ 0 → Ins.lookup k (Scr.erase 0 o) = Ins.lookup k o :=
  ⟨Scr.lookup_erase_self h, fun _ hk => Scr.lookup_erase_other hk h⟩

/-- … and a deletion at one place leaves every place that parts from it at a list index as it was, so the order
    of the deletions is immaterial -/
theorem scrubbing_one_place_leaves_the_others (p q : List Fp.RPt) (x : Ins.J) (op oq : Ins.KVs)
    (hp : Fp.walk x p = some (.obj op)) (hq : Fp.walk x q = some (.obj oq)) (h : Fp.Parts p q) :
    ∃ x', Scr.deleteAt x (p.map Fp.toPt) = some x' ∧ Fp.walk x' q = some (.obj oq) :=
  Scr.deleteAt_frame p q x op oq hp hq h

/-- **the planner adds the join `id` only where a follow-up step is inserted** (`Pl`, the model of plan.go tied by
    the L1.plan correspondence; documents without named fragments): wherever the query of a step holds an `id` the
    planner put there — the client's own `id` fields carry the type they were validated against and are never
    taken for it — the plan has a step hanging off that step whose insertion point is exactly that place.  With
    `scrub_paths_exact` (every insertion point where the client did not ask for `id` is listed) and
    `the_join_id_is_removed_where_listed`, no `id` the planner adds survives into the response. -/
theorem every_id_the_planner_adds_is_at_a_join_point {env : Pl.Env} {fuel : Nat} {operation : String}
    {sels : List Pl.Sel} {steps : List Pl.Step} (hns : Pl.noSpreadL sels = true) (hu : Pl.unmarkedL sels = true)
    (h : Pl.planOperation env fuel operation sels = .ok steps) :
    ∀ t ∈ steps, ∀ p, Pl.InjectedAt t.sel p → ∃ u ∈ steps, u.parent = some t.id ∧ u.ip = t.ip ++ p :=
  Pl.planOperation_injected_ids_are_join_points hns hu h

/-- **a scrubber that cannot finish hands nothing back** (`Mw.execute`, the model of the tail of `Gateway.Execute`,
    tied by the regenerated facts `mw.errorAborts` / `mw.returnsResultAndExecErr`): when the scrubber trips over a
    place it cannot walk to — half of the listed places cleaned, half not — the data is dropped; the errors returned are those the executor had reported followed by the scrubber's -/
theorem a_scrubber_that_fails_hands_back_no_data {D E : Type} (scrub : Mw.RMw D E) (user : List (Mw.RMw D E))
    (result : D) (ee : List E) (e : E) (h : scrub.run result = .error e) :
    Mw.execute scrub user result ee = ([scrub.id], none, ee ++ [e]) := Mw.execute_scrubber_fails scrub user result ee e h

/-- **planner and scrub table together**: take a plan of the planner model and the scrub table computed over a plan
    tree that holds the planner's steps (every insertion point of a step of the plan is the insertion point of a
    step of the tree — the tree is the `Then` nesting of those very steps).  Then wherever a step's query holds an
    `id` the planner added, and the client's flattened selection has no `id` at that place, the place is listed for
    scrubbing — so by `the_join_id_is_removed_where_listed` it is gone from the response; where the client did ask for
    `id` it is not listed (`requested_id_kept`) and stays. -/
theorem an_added_id_the_client_did_not_ask_for_is_listed {env : Pl.Env} {fuel : Nat} {operation : String}
    {sels : List Pl.Sel} {steps : List Pl.Step} (hns : Pl.noSpreadL sels = true) (hu : Pl.unmarkedL sels = true)
    (hplan : Pl.planOperation env fuel operation sels = .ok steps)
    (clientSel : List S) (roots : List PStep) (ps : List (List String)) (hscrub : scrubPaths clientSel roots = some ps)
    (htree : ∀ u ∈ steps, ∃ t ∈ allStepsL roots, t.ip = u.ip)
    (t : Pl.Step) (ht : t ∈ steps) (p : List String) (hinj : Pl.InjectedAt t.sel p)
    (hneeds : NeedsScrub clientSel (t.ip ++ p)) : (t.ip ++ p) ∈ ps := by
  obtain ⟨u, hu', _, hip⟩ := Pl.planOperation_injected_ids_are_join_points hns hu hplan t ht p hinj
  obtain ⟨t', ht', hip'⟩ := htree u hu'
  exact ((scrubPaths_exact clientSel roots ps hscrub).2 (t.ip ++ p)).2 ⟨⟨t', ht', by rw [hip', hip]⟩, hneeds⟩

/-- non-vacuity: `{ me { firstName lastName } }` with `lastName` served elsewhere — the client's selection is
    unmarked, the step for A gets `me { firstName id }` and the step for B is inserted at [me] (step 0 is the
    empty root step, which is never sent: its `id` stands for the root steps hanging off it at []) -/
def exEnv : Pl.Env :=
  { routes := [("Query.me", ["A"]), ("User.firstName", ["A"]), ("User.lastName", ["B"]), ("User.id", ["A", "B"])],
    configured := [], internal := "gw", planFrags := [] }
def exSels : List Pl.Sel :=
  [.field "me" "me" "" [] [] "User" [.field "firstName" "firstName" "" [] [] "String" [],
                                      .field "lastName" "lastName" "" [] [] "String" []]]
example : Pl.noSpreadL exSels = true ∧ Pl.unmarkedL exSels = true := by decide +kernel
example : (Pl.planOperation exEnv 10 "query" exSels).toOption.map
      (fun steps => steps.map (fun s => (s.id, s.parent, s.ip))) =
    some [(0, none, []), (1, some 0, []), (2, some 1, ["me"])] := by decide +kernel
example : (Pl.planOperation exEnv 10 "query" exSels).toOption.map
      (fun steps => steps.map (fun s => (Pl.leafPathsL s.sel, Pl.unmarkedL s.sel))) =
    some [([["id"]], false), ([["me", "firstName"], ["me", "id"]], false), ([["lastName"]], true)] := by decide +kernel

/-- non-vacuity: `{ me { firstName friends { id nick } } }` with steps at [me] and [me, friends] -/
example :
    scrubPaths [.mk "me" "me" [.mk "firstName" "firstName" [], .mk "friends" "friends" [.mk "id" "id" [], .mk "nick" "nick" []]]]
      [.mk [] [.mk ["me"] [.mk ["me", "friends"] []], .mk ["me"] []]] = some [["me"]] := by decide +kernel

end Props.C04
