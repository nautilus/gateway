import GwModel.MergeDef
import GwModel.MergeSchema
import GwModel.Route
import GwModel.Gen.Facts
import GwModel.MergeLocs
/-! # C03 — Merging is a conservative union of the service schemas -/
namespace Props.C03
open Mg Facts

def UnionFactsSafe : Prop :=
  Gen.merge.kindGuard = true ∧ Gen.merge.possibleTypesFrom = .mergedDefinitions ∧ Gen.routeStripsIntrospection = true

instance : Decidable UnionFactsSafe := by unfold UnionFactsSafe; exact inferInstance

theorem facts_safe : UnionFactsSafe := by decide +kernel

/-- every field of every service's definition of an object type is in the merged type with the same
    signature, and nothing else is -/
theorem object_fields_are_the_union (d : Def) (ds : List Def) (hok : ∀ x ∈ d :: ds, DefOK x) (r : Def)
    (h : mergeGroup (d :: ds) = some r) (hobj : d.kind = .object) :
    (∀ x ∈ d :: ds, ∀ f ∈ x.fields, ∃ g ∈ r.fields, g.name = f.name ∧ g.sig = f.sig) ∧
    (∀ g ∈ r.fields, ∃ x ∈ d :: ds, g ∈ x.fields) ∧ NodupNames r.fields := by
  have hrep := (mergeGroup_content d ds hok r h).2.1 hobj
  refine ⟨?_, ?_, hrep.nodup⟩
  · intro x hx f hf
    exact hrep.twin x.fields (List.mem_map.2 ⟨x, hx, rfl⟩) f hf
  · intro g hg
    obtain ⟨fs, hfs, hgf⟩ := hrep.from_ g hg
    obtain ⟨x, hx, rfl⟩ := List.mem_map.1 hfs
    exact ⟨x, hx, hgf⟩

/-- every other kind is kept with exactly the members every service declares -/
theorem other_kinds_keep_their_members (d : Def) (ds : List Def) (hok : ∀ x ∈ d :: ds, DefOK x) (r : Def)
    (h : mergeGroup (d :: ds) = some r) (hno : d.kind ≠ .object) (hns : d.kind ≠ .scalar) :
    r.kind = d.kind ∧ ∀ x ∈ d :: ds, SameSet r.fields x.fields := by
  obtain ⟨hk, _, hoth⟩ := mergeGroup_content d ds hok r h
  obtain ⟨hf, hs⟩ := hoth hno
  exact ⟨hk, fun x hx => hf ▸ hs hns x hx⟩

/-- the routing table lists, for a field, exactly the services that declare it … -/
theorem routed_exactly_to_declaring_services (srcs : List Route.Src) (internal : Route.Src) (gwTypes : List String)
    (t f loc : String) (hloc : loc ≠ internal.url) :
    loc ∈ Route.urlsFor srcs internal gwTypes t f ↔
      ∃ s ∈ srcs, s.url = loc ∧ Route.declares s t f = true ∧ Route.isIntrospection t f = false :=
  Route.service_routed_iff srcs internal gwTypes t f loc hloc

/-- … and never routes introspection to a service -/
theorem introspection_stays_at_the_gateway (srcs : List Route.Src) (internal : Route.Src) (gwTypes : List String)
    (t f loc : String) (hloc : loc ≠ internal.url) (hi : Route.isIntrospection t f = true) :
    loc ∉ Route.urlsFor srcs internal gwTypes t f :=
  Route.introspection_not_routed srcs internal gwTypes t f loc hloc hi

example : Route.urlsFor [⟨"A", [("User", ["id", "a"])]⟩, ⟨"B", [("User", ["id"]), ("Query", ["__schema"])]⟩] ⟨"gw", [("Node", ["id"])]⟩ ["Node"] "User" "id" = ["A", "B"] ∧
          Route.urlsFor [⟨"B", [("Query", ["__schema"])]⟩] ⟨"gw", [("Query", ["__schema", "node"])]⟩ ["Node"] "Query" "__schema" = ["gw"] := by decide +kernel


/-- **a directive that merges allows every location any of its definitions allows, and nothing else** (`Ml.mergeLocs`,
    the model of mergeDirectiveLocations, tied by L2.mergelocs) -/
theorem a_merged_directive_allows_the_union_of_locations {α : Type} [DecidableEq α] (isTS : α → Bool) (l1 l2 r : List α)
    (h : Ml.mergeLocs isTS l1 l2 = some r) (x : α) : x ∈ r ↔ x ∈ l1 ∨ x ∈ l2 := Ml.mergeLocs_mem isTS l1 l2 r h x

/-- **where a client may write the directive is what each service said**: no service's query that uses the directive
    becomes invalid, and none becomes valid that a service would refuse -/
theorem a_merged_directive_is_usable_in_queries_where_each_service_allows_it {α : Type} [DecidableEq α] (isTS : α → Bool)
    (l1 l2 r : List α) (h : Ml.mergeLocs isTS l1 l2 = some r) (x : α) (hx : isTS x = false) :
    (x ∈ r ↔ x ∈ l1) ∧ (x ∈ r ↔ x ∈ l2) := Ml.mergeLocs_executable isTS l1 l2 r h x hx

example : Ml.mergeLocs Ml.isTypeSystem ["FIELD", "OBJECT"] ["SCALAR", "FIELD"] = some ["FIELD", "OBJECT", "SCALAR"] := by decide +kernel

end Props.C03
