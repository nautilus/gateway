import GwModel.Trans.Local
import GwModel.PlanTerm
import GwModel.Select
import GwModel.ExecFacts
import GwModel.Gen.Facts
import GwModel.FindPtsPaths
import GwModel.PlanShape
/-! # C13 — Every fetch is issued exactly once and no hop is needless -/
namespace Props.C13
open Facts

def FactsSafe : Prop :=
  Sel.FactsSafe Gen.selectLoc ∧ Gen.chooserPlain = .selectLocation ∧ Gen.chooserNamed = .selectLocation ∧
  Gen.chooserInline = .selectLocation ∧ ExecM.FactsSafe Gen.exec ∧ Gen.planQueue = .localWorklist

instance : Decidable FactsSafe := by unfold FactsSafe; exact inferInstance

theorem facts_safe : FactsSafe := by decide +kernel

/-- no needless hop, chooser level: without an applicable priority a field offered by the service already
    being queried stays there -/
theorem stays_with_parent (possible configured : List Sel.Loc) (parent internal : Sel.Loc)
    (hnone : configured.find? (fun q => decide (q ∈ possible)) = none) (hpar : parent ∈ possible) :
    Sel.selectLocation Gen.selectLoc possible configured parent internal = some parent := by
  rw [Sel.selectLocation_safe facts_safe.1]; exact Sel.choose_parent hnone hpar

/-- **no needless hop, plan level, whole planner** (model `Pl`, tied to plan.go by L1.plan): in every plan — any
    document, fragments, wrappers, routing table, priorities, fuel — the step a follow-up step hangs off is at a
    service the chooser leaves for some field; so a step at a service that keeps everything it is asked has no
    follow-up steps … -/
theorem follow_ups_only_below_services_the_chooser_leaves {env : Pl.Env} {fuel : Nat} {operation : String}
    {sels : List Pl.Sel} {steps : List Pl.Step} (h : Pl.planOperation env fuel operation sels = .ok steps) :
    ∀ t ∈ steps, ∀ q, t.parent = some q → ∃ s ∈ steps, s.id = q ∧ ¬ Pl.AllLocal env s.location :=
  Pl.planOperation_no_needless_hop h

/-- … and a service keeps everything it is asked when no priorities are configured and it offers every field of
    the routing table -/
theorem a_service_offering_everything_keeps_everything {env : Pl.Env} {L : Pl.Loc} (hp : env.configured = [])
    (hall : ∀ k possible, env.routes.lookup k = some possible → L ∈ possible) : Pl.AllLocal env L :=
  Pl.allLocal_of_offers_everything hp hall

/-- no needless hop, plan level (core query class): if the chooser keeps every field at the current
    service, the split creates no dependent step at all — the query is answered by a single request -/
theorem single_service_single_step (r : Tr.Routing) (L T : Nat) (l : List Tr.Sel)
    (h : ∀ T f, r.choose T f L = L) : (Tr.splitSels r L T l).2 = [] ∧ (Tr.splitSels r L T l).1 = l := by
  rw [Tr.splitSels_local r L h T l]; exact ⟨rfl, rfl⟩

/-- exactly once, executor level: whatever the schedule, when `Execute` returns every task (one per
    (step, realised parent object)) has been merged, and none twice -/
theorem every_task_merged_exactly_once (ts : ExecM.Tasks) (hwf : ExecM.WF ts) {s : ExecM.St}
    (hr : ExecM.Reach (ExecM.cfgOfFacts Gen.exec) ts s) (hret : s.returned = true) :
    s.order.Nodup ∧ ∀ t, t ∈ s.order ↔ t < ts.length :=
  have hs := ExecM.cfg_safe_of_facts facts_safe.2.2.2.2.1
  ⟨(ExecM.order_respectful hs hwf hr).1, ExecM.order_complete hs hwf hr hret⟩

/-- exactly once, insertion-point level: whatever the reply looks like (well-formed or not), the places a
    dependent step is started for are pairwise different — no object is fetched, and no place is written, twice
    by one step.  (`Fp.findPts` is tied to executorFindInsertionPoints by the L2.findpoints correspondence.) -/
theorem follow_ups_at_distinct_places (infos : List Fp.PInfo) (chunk : Ins.KVs) (pre : List Fp.RPt)
    (paths : List (List Fp.RPt)) (h : Fp.findPts infos chunk pre = .ok paths) : (paths.map Fp.sig).Nodup :=
  Fp.findPts_nodup infos chunk pre paths h

/-- non-vacuity: two users, the second without id (a fragment did not apply to it), three photos under the first -/
example :
    (Fp.findPts [⟨1, true, true, true⟩, ⟨2, true, true, false⟩]
      [(1, .arr [.obj [(0, .leaf "\"u1\""), (2, .arr [.obj [(0, .leaf "\"p1\"")], .null, .obj [(0, .leaf "\"p2\"")]])],
                 .obj [(2, .arr [])]])] []).toOption.map (fun ps => ps.map Fp.sig) =
      some [[(1, some 0), (2, some 0)], [(1, some 0), (2, some 2)]] := by decide +kernel

/-- non-vacuity: a routing that keeps everything local, on the smoke-test query -/
example : (Tr.splitSels { choose := fun _ _ L => L, ftype := fun _ _ => 0 } 0 0 Tr.qT).2 = [] := by decide +kernel

/-- **no client field is asked for twice** (planner model `Pl`, documents without named fragments): over all steps of
    the plan the client's fields the steps ask their services for, counted with multiplicity, are at most the fields
    of the client's document (`Pl.cfcL` counts the client's fields; the `id` the planner adds is not one).  With
    `Props.C01.no_requested_field_is_lost_by_planning` every requested field is asked for exactly once. -/
theorem no_client_field_is_asked_for_twice {env : Pl.Env} {fuel : Nat} {operation : String} {sels : List Pl.Sel}
    {steps : List Pl.Step} (hns : Pl.noSpreadL sels = true) (h : Pl.planOperation env fuel operation sels = .ok steps) :
    Pl.asked steps ≤ Pl.cfcL sels := Pl.planOperation_no_field_twice hns h

/-- **no step only carries plumbing**: every step other than the (empty) root step asks its service for at least one of
    the client's fields — a hop is never made for nothing (`Pl.planOperation_no_empty_step`: every pending step is
    anchored at its location by a client field whose service is chosen again when asked from that service) -/
theorem every_step_fetches_something_the_client_asked_for {env : Pl.Env} {fuel : Nat} {operation : String}
    {sels : List Pl.Sel} {steps : List Pl.Step} (hns : Pl.noSpreadL sels = true) (hu : Pl.unmarkedL sels = true)
    (h : Pl.planOperation env fuel operation sels = .ok steps) : ∀ s ∈ steps, s.id ≠ 0 → 1 ≤ Pl.cfcL s.sel :=
  Pl.planOperation_no_empty_step hns hu h

/-- non-vacuity: `{ me { firstName lastName } }` with `lastName` elsewhere: three client fields, three asked for -/
def exEnv2 : Pl.Env :=
  { routes := [("Query.me", ["A"]), ("User.firstName", ["A"]), ("User.lastName", ["B"]), ("User.id", ["A", "B"])],
    configured := [], internal := "gw", planFrags := [] }
def exSels2 : List Pl.Sel :=
  [.field "me" "me" "" [] [] "User" [.field "firstName" "firstName" "" [] [] "String" [],
                                      .field "lastName" "lastName" "" [] [] "String" []]]
example : (Pl.planOperation exEnv2 10 "query" exSels2).toOption.map Pl.asked = some 3 ∧ Pl.cfcL exSels2 = 3 := by decide +kernel

end Props.C13
