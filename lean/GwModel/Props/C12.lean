import GwModel.CacheRun
import GwModel.Gen.Facts
/-! # C12 — The query-plan cache is transparent

Model: `PCache` — `AutomaticQueryPlanCache.Retrieve` split into its atomic steps (Load by client hash /
plan / LoadOrStore under the hash, or under the sha256 of the text when none was sent), arbitrary
interleaving of in-flight requests, garbage collection as a filter on last-use times.  `planOf` (the
planner), `sha` and `textOf` (the text a hash stands for in a consistent history) are parameters. -/
namespace Props.C12
open PCache Facts

def CacheFactsSafe : Prop :=
  Gen.cache.storeOp = .loadOrStore ∧ Gen.cache.touchOnHit = true ∧ Gen.cache.evict = .lastUsedBeforeNowMinusTtl ∧
  Gen.cache.keyIsShaOfText = true ∧ Gen.cache.missWithoutQueryIsNotFound = true ∧ Gen.cache.planErrorNotStored = true

instance : Decidable CacheFactsSafe := by unfold CacheFactsSafe; exact inferInstance

theorem facts_safe : CacheFactsSafe := by decide +kernel

variable {Plan Err : Type} (planOf : Text → Except Err Plan) (sha : Text → Hash) (ttl : Nat) (textOf : Hash → Text)

/-- any single atomic step of any in-flight request, whatever the other requests have done to the cache in
    between: the cache keeps holding only plans of the texts its keys stand for, and a response, if produced,
    is the cache-less one or NotFound for a text-less request -/
theorem every_step_sound (s : St Plan Err) (r : Req Plan)
    (hc : CacheOK planOf textOf s.cache) (hr : ReqOK planOf sha textOf r) :
    let (c', r', resp) := stepReq planOf sha s r
    CacheOK planOf textOf c' ∧
    (∀ r'', r' = some r'' → ReqOK planOf sha textOf r'' ∧ r''.query = r.query ∧ r''.hash = r.hash) ∧
    (∀ x, resp = some x → Sound planOf textOf r x) :=
  stepReq_sound planOf sha textOf s r hc hr

/-- every history of requests, idle periods and collections -/
theorem every_history_sound (es : List (Ev Plan)) (cache : List (Entry Plan))
    (hc : CacheOK planOf textOf cache) (hr : ∀ e ∈ es, ReqOK planOf sha textOf e.req) :
    CacheOK planOf textOf (runHistory planOf sha ttl (Err := Err) cache es).2 ∧
    ∀ (i : Nat) (e : Ev Plan) x, es[i]? = some e → (runHistory planOf sha ttl (Err := Err) cache es).1[i]? = some (some x) →
      Sound planOf textOf e.req x :=
  runHistory_sound planOf sha ttl textOf es cache hc hr

/-- expiry never removes an entry used within the TTL -/
theorem expiry_only_removes_stale {c : List (Entry Plan)} {now : Nat} {e : Entry Plan}
    (he : e ∈ c) (hgone : e ∉ gc ttl c now) : e.lastUsed + ttl < now :=
  gc_evicts_only_stale ttl he hgone

end Props.C12
