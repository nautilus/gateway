import GwModel.MergeDef
import GwModel.Gen.Facts
import GwModel.MergeSig
import GwModel.MergeDirs
import GwModel.MergeLocs
/-! # C10 — Merging does not depend on service order or on the run -/
namespace Props.C10
open Mg Facts

def OrderFactsSafe : Prop :=
  Gen.merge.kindGuard = true ∧ Gen.merge.possibleTypesFrom = .mergedDefinitions ∧ Gen.merge.directiveListsBothWays = true ∧
  Gen.merge.valueCompare = .deep

instance : Decidable OrderFactsSafe := by unfold OrderFactsSafe; exact inferInstance

/-- the kind guard is symmetric, possible types come from the merged definitions (not from whichever
    definition came first), applied directive lists are compared both ways -/
theorem facts_safe : OrderFactsSafe := by decide +kernel

/-- whether the definitions of a name merge does not depend on the order of the services -/
theorem success_order_independent {g₁ g₂ : List Def} (hp : g₁.Perm g₂) (hok : ∀ x ∈ g₁, DefOK x) :
    (mergeGroup g₁).isSome = (mergeGroup g₂).isSome :=
  mergeGroup_perm hp hok

/-- and neither does the content: an object's merged fields represent all definitions of the group, every
    other kind keeps a member set equal to every definition's -/
theorem content_order_independent (d : Def) (ds : List Def) (hok : ∀ x ∈ d :: ds, DefOK x) (r : Def)
    (h : mergeGroup (d :: ds) = some r) :
    r.kind = d.kind ∧
    (d.kind = .object → Represents r.fields ((d :: ds).map (·.fields))) ∧
    (d.kind ≠ .object → r.fields = d.fields ∧ (d.kind ≠ .scalar → ∀ x ∈ d :: ds, SameSet d.fields x.fields)) :=
  mergeGroup_content d ds hok r h

/-- compatibility is symmetric: there is no "first wins" -/
theorem compat_symmetric {a b : Def} (h : Compat a b) : Compat b a := h.symm

example : (mergeGroup [⟨3, .object, [⟨0, 7⟩], [9]⟩, ⟨3, .object, [⟨0, 7⟩, ⟨1, 8⟩], []⟩]).isSome =
          (mergeGroup [⟨3, .object, [⟨0, 7⟩, ⟨1, 8⟩], []⟩, ⟨3, .object, [⟨0, 7⟩], [9]⟩]).isSome := by decide +kernel

/-- the comparison of two argument lists (`Ms.argDefsEq`, the model of mergeArgumentDefinitionList) holds in both
    directions or in neither — which service is listed first does not decide whether their declarations agree -/
theorem argument_comparison_is_symmetric {l1 l2 : List Ms.ArgDef} (hn1 : (l1.map (·.name)).Nodup)
    (hn2 : (l2.map (·.name)).Nodup) : Ms.argDefsEq l1 l2 = Ms.argDefsEq l2 l1 :=
  Bool.eq_iff_iff.2 ⟨Ms.argDefsEq_symm hn1 hn2, Ms.argDefsEq_symm hn2 hn1⟩

/-- types and default values are compared by equality, which has no direction -/
theorem type_and_default_comparisons_are_symmetric (a b : Option Ms.Ty) (v w : Option Ms.V) :
    Ms.typesEqual a b = Ms.typesEqual b a ∧ Ms.valuesEqual v w = Ms.valuesEqual w v := by
  exact ⟨Bool.eq_iff_iff.2 (by rw [Ms.typesEqual_iff, Ms.typesEqual_iff, eq_comm]),
    Bool.eq_iff_iff.2 (by rw [Ms.valuesEqual_iff, Ms.valuesEqual_iff, eq_comm])⟩


/-- **the directives applied to two declarations compare the same whichever comes first** (`Md.listsEqual`, the model
    of mergeDirectiveListsEqual, which the fact `directiveListsBothWays` recognises by its `matched[]` bookkeeping) -/
theorem applied_directives_compare_the_same_either_way {α : Type} [DecidableEq α] (l1 l2 : List α) :
    Md.listsEqual l1 l2 = Md.listsEqual l2 l1 := Md.listsEqual_symm l1 l2

/-- and what it decides has no direction: the same applications, each as many times -/
theorem applied_directives_agree_iff_same_applications {α : Type} [DecidableEq α] (l1 l2 : List α) :
    Md.listsEqual l1 l2 = true ↔ l1.Perm l2 := Md.listsEqual_iff l1 l2

/-- a third service is judged alike against either of two services that agree -/
theorem applied_directives_agreement_is_transitive {α : Type} [DecidableEq α] {l1 l2 l3 : List α}
    (h12 : Md.listsEqual l1 l2 = true) (h23 : Md.listsEqual l2 l3 = true) : Md.listsEqual l1 l3 = true :=
  Md.listsEqual_trans h12 h23

/-- without the bookkeeping — every application of the first list only needs SOME equal one in the second — the
    verdict depends on the order of the services (kernel-checked witness: `@r(1) @r(1)` against `@r(1) @r(2)`) -/
theorem without_the_pairing_the_order_of_the_services_decides :
    Md.listsEqualNoBookkeeping [1, 1] [1, 2] = true ∧ Md.listsEqualNoBookkeeping [1, 2] [1, 1] = false :=
  Md.noBookkeeping_is_not_symmetric

example : Md.listsEqual ["@r(n: 1)", "@s", "@r(n: 1)"] ["@s", "@r(n: 1)", "@r(n: 1)"] = true ∧
          Md.listsEqual ["@r(n: 1)", "@r(n: 1)"] ["@r(n: 1)", "@r(n: 2)"] = false := by decide +kernel


/-- **whether two definitions of a directive merge, and which locations the merged one allows, do not depend on the
    order of the services** -/
theorem directive_locations_merge_the_same_either_way {α : Type} [DecidableEq α] (isTS : α → Bool) (l1 l2 : List α) :
    (Ml.mergeLocs isTS l1 l2).isSome = (Ml.mergeLocs isTS l2 l1).isSome ∧
    ∀ r r', Ml.mergeLocs isTS l1 l2 = some r → Ml.mergeLocs isTS l2 l1 = some r' → ∀ x, x ∈ r ↔ x ∈ r' :=
  ⟨Ml.mergeLocs_isSome_comm isTS l1 l2, fun r r' h h' x => Ml.mergeLocs_mem_comm isTS l1 l2 r r' h h' x⟩

end Props.C10
