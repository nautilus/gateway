import GwModel.PlanQueue
import GwModel.Select
import GwModel.Gen.Facts
import GwModel.PlanTotal
import GwModel.PlanFuel
import GwModel.PlanTerm
import GwModel.Route
/-! # C08 — Planning is total: always returns, with a plan for every valid query

Model level: (1) step discovery through the queue discipline the source uses (extracted on every run)
builds every step once and stops, for any number of branch points per step and any depth; (2) the chooser
is total on declared fields and re-asking from the chosen service returns the same service (no ping-pong
between services); (3) no goroutine, channel or wait group is involved in planning any more, so there is
nothing to leak, close twice or wait for (fact: `planQueue = localWorklist`, `planErrPathClosesLiveChan =
false`).  Totality of gqlparser's parser/validator on arbitrary strings is outside the model and is watched
by the harness (watchdog, goroutine census, child processes). -/
namespace Props.C08
open Facts PlanQueue

def PlanFactsSafe : Prop :=
  QueueSafe Gen.planQueue ∧ Gen.planErrPathClosesLiveChan = false ∧ Sel.FactsSafe Gen.selectLoc ∧
  Gen.chooserPlain = .selectLocation ∧ Gen.chooserNamed = .selectLocation ∧ Gen.chooserInline = .selectLocation

instance : Decidable PlanFactsSafe := by unfold PlanFactsSafe; exact inferInstance

theorem facts_safe : PlanFactsSafe := by decide +kernel

/-- every step of the plan is built exactly once and planning stops, for every step tree -/
theorem step_discovery_terminates (q : List PTree) : drain (sizeL q) q = some (sizeL q) :=
  drain_total (sizeL q) q (Nat.le_refl _)

/-- in particular for any number of cross-service branch points inside one step -/
theorem any_number_of_branch_points (n : Nat) : drain (n + 1) [wide n] = some (n + 1) :=
  worklist_handles_any_width n

/-- a declared field always gets a location … -/
theorem chooser_total (possible configured : List Sel.Loc) (parent internal : Sel.Loc) (h : possible ≠ []) :
    ∃ l, Sel.selectLocation Gen.selectLoc possible configured parent internal = some l :=
  Sel.choose_total h

/-- … and a dependent step does not send its own top-level fields away again (the non-termination D26) -/
theorem no_ping_pong (possible configured : List Sel.Loc) (parent internal l : Sel.Loc)
    (h : Sel.selectLocation Gen.selectLoc possible configured parent internal = some l) :
    Sel.selectLocation Gen.selectLoc possible configured l internal = some l := by
  rw [Sel.selectLocation_safe facts_safe.2.2.1] at h ⊢; exact Sel.choose_stable h

/-- **The planner fails only for reasons that lie in its input** (planner model `Pl`, tied to plan.go by the
    L1.plan correspondence).  For every routing table without empty entries, priority list, document (any
    nesting of fragments, wrappers, directives) and fuel: planning an operation never ends in one of the
    planner's internal errors ("Could not find definition for fragment", "Could not find defn") nor in a
    panic; the only failures are a field without a location, a spread of an undefined fragment — neither
    exists in a document that validates against the schema the routing table was built from — and the
    model's own fuel. -/
theorem planning_fails_only_for_its_input {env : Pl.Env} (hr : Pl.RoutesNonempty env) {fuel : Nat} {operation : String}
    {sels : List Pl.Sel} {e : Pl.Err} (h : Pl.planOperation env fuel operation sels = .error e) :
    (∃ t f, e = .noRoute t f) ∨ (∃ n, e = .noFragment n) ∨ e = .fuel :=
  (Pl.planOperation_error_benign hr h).cases

/-- **`extractSelection` is total on selections without named fragments**: with more fuel than the nesting depth
    of the selection (fields and inline fragments), and a routing table without empty entries, it ends with the
    step's selection or with "a field has no location" — never out of fuel, never with an internal error. -/
theorem extract_selection_is_total {env : Pl.Env} (hr : Pl.RoutesNonempty env) (fuel : Nat) (cfg : Pl.Cfg) (st : Pl.St)
    (hns : Pl.noSpreadL cfg.sel = true) (hd : Pl.depthL cfg.sel < fuel) :
    (∃ sel st', Pl.extract env fuel cfg st = .ok (sel, st')) ∨ ∃ t f, Pl.extract env fuel cfg st = .error (.noRoute t f) := by
  cases h : Pl.extract env fuel cfg st with
  | ok r => exact Or.inl ⟨r.1, r.2, rfl⟩
  | error e =>
    rcases (Pl.extract_error_benign hr fuel cfg st e h).cases with ⟨t, f, rfl⟩ | ⟨n, rfl⟩ | rfl
    · exact Or.inr ⟨t, f, rfl⟩
    · -- a selection without spreads never looks a fragment up
      exact absurd h (Pl.extract_no_fragment_error env fuel cfg st hns n)
    · exact absurd h (Pl.extract_fuel env fuel cfg st hns hd)

/-- **A routed document is never refused for want of a location** (documents without named fragments): whatever the
    planner does with the selection — bundling for other services, re-wrapping in the inline fragments a bundle was
    found under, merging into pending steps, descending — every field it looks up is one the document named, read
    against the type the document named it under.  `Pl.routedL env T sels`: every field of `sels` has an entry in the
    routing table under the type it is selected on. -/
theorem a_routed_document_is_never_refused_for_want_of_a_location {env : Pl.Env} {fuel : Nat} {operation : String}
    {sels : List Pl.Sel} (hns : Pl.noSpreadL sels = true) (hr : Pl.routedL env (Pl.rootTypeOf operation) sels = true)
    (t f : String) : Pl.planOperation env fuel operation sels ≠ .error (.noRoute t f) :=
  Pl.planOperation_routed hns hr t f

/-- … and the routing table has an entry for every field a service declares (`Route`, the model of `fieldURLs`, tied by
    the L1.routing correspondence of C03): so every field of a document that validates against the merged schema —
    each field of which is declared by some service — is routed -/
theorem a_declared_field_has_a_location (srcs : List Route.Src) (internal : Route.Src) (gwTypes : List String)
    (t f : String) (s : Route.Src) (hs : s ∈ srcs) (hd : Route.declares s t f = true) (hi : Route.isIntrospection t f = false) :
    Route.urlsFor srcs internal gwTypes t f ≠ [] :=
  List.ne_nil_of_mem (Route.mem_urlsFor_of_declares internal gwTypes hs hd hi)

/-- **Planning terminates** (documents without named fragments): with more fuel than the nesting depth of the document
    and than its number of fields plus one, the model never runs out of fuel — not inside one `extractSelection`
    (the nesting of everything the planner queues, wrappers included, stays within the document's), and not in the
    work list of `generatePlans`: every pending step other than the root is anchored — it holds a client field whose
    service is chosen again when asked from that service (`no_ping_pong`) — so it keeps at least one field for itself,
    and the number of client fields still waiting strictly decreases with every step built. -/
theorem planning_does_not_run_out_of_fuel {env : Pl.Env} {fuel : Nat} {operation : String} {sels : List Pl.Sel}
    (hns : Pl.noSpreadL sels = true) (hu : Pl.unmarkedL sels = true) (hd : Pl.depthL sels < fuel)
    (hc : Pl.cfcL sels + 1 < fuel) : Pl.planOperation env fuel operation sels ≠ .error .fuel :=
  Pl.planOperation_no_fuel hns hu hd hc

/-- **A valid query gets a plan** (documents without named fragments): for every routing table without empty entries,
    every priority list and every routed document, with enough fuel planning ends with a plan. -/
theorem a_routed_document_without_named_fragments_gets_a_plan {env : Pl.Env} (hr : Pl.RoutesNonempty env) {fuel : Nat}
    {operation : String} {sels : List Pl.Sel} (hns : Pl.noSpreadL sels = true) (hu : Pl.unmarkedL sels = true)
    (hrt : Pl.routedL env (Pl.rootTypeOf operation) sels = true) (hd : Pl.depthL sels < fuel)
    (hc : Pl.cfcL sels + 1 < fuel) : ∃ steps, Pl.planOperation env fuel operation sels = .ok steps :=
  Pl.planOperation_total hr hns hu hrt hd hc

/-- non-vacuity of the hypotheses: `{ me { firstName ... on User { lastName nick } } }` over three services -/
def exEnv : Pl.Env :=
  { routes := [("Query.me", ["A"]), ("User.firstName", ["A"]), ("User.lastName", ["B", "C"]), ("User.nick", ["C"]),
               ("User.id", ["A", "B", "C"])],
    configured := [], internal := "gw", planFrags := [] }
def exSels : List Pl.Sel :=
  [.field "me" "me" "" [] [] "User" [.field "firstName" "firstName" "" [] [] "String" [],
     .inline "User" [] [.field "lastName" "lastName" "" [] [] "String" [], .field "nick" "nick" "" [] [] "String" []]]]
example : Pl.noSpreadL exSels = true ∧ Pl.unmarkedL exSels = true ∧ Pl.routedL exEnv "Query" exSels = true ∧
    Pl.depthL exSels < 10 ∧ Pl.cfcL exSels + 1 < 10 := by decide +kernel
example : (Pl.planOperation exEnv 10 "query" exSels).toOption.map (fun steps => steps.map (fun s => (s.location, s.ip))) =
    some [("", []), ("A", []), ("B", ["me"]), ("C", ["me"])] := by decide +kernel

/-- non-vacuity: an unroutable field is reported as such, and a routable document under fragments and
    wrappers plans -/
example : (match Pl.planOperation { routes := [("Query.me", ["A"])], configured := [], internal := "gw", planFrags := [] } 9 "query"
      [.field "me" "me" "" [] [] "User" [.field "x" "x" "" [] [] "String" []]] with
    | .error e => e == .noRoute "User" "x"
    | .ok _ => false) = true := by decide +kernel

/-- why the queue fact matters: the discipline of the code before the repair gets stuck at 51 branch points -/
theorem bounded_self_fed_queue_blocks : drainBounded 50 1000 [wide 51] = none := bounded_queue_blocks

end Props.C08
