import GwModel.InsertPath
/-! Stitching keeps values well-formed; collector messages and their commutation; `modAt`, the walk of `insertAt`
    with what happens at its end left open. -/
namespace Ins

theorem wf_finish {x v y : J} (hx : WF x) (hv : WF v) (h : finish x v = some y) : WF y := by
  cases x with
  | obj kvs => rw [finish_obj_eq] at h; cases h; exact wf_mergeK hx (wf_fieldsOf hv)
  | _ => cases v <;> cases h

theorem wf_insertAt : ∀ (p : List Pt) (x v y : J), WF x → WF v → insertAt x p v = some y → WF y
  | [], x, v, y, hx, hv, h => wf_finish hx hv (by rwa [insertAt] at h)
  | ⟨f, idx⟩ :: rest, x, v, y, hx, hv, h => by
    cases x with
    | obj kvs =>
      rw [insertAt_cons] at h
      obtain ⟨c, hs, rfl⟩ := Option.map_eq_some_iff.1 h
      apply wf_put hx
      cases idx with
      | none => exact wf_insertAt rest _ v c (wf_childOfCur hx f) hv hs
      | some i =>
        rw [stepOf_some] at hs
        obtain ⟨l0, hl, hs⟩ := Option.bind_eq_some_iff.1 hs
        obtain ⟨l', hu, rfl⟩ := Option.map_eq_some_iff.1 hs
        exact .arr _ (wf_updAt (fun e e' he => wf_insertAt rest e v e' he hv) i l0 l' (wf_listOfCur hx hl) hu)
    | _ => simp [insertAt_of_nonobj] at h

theorem wf_insertRoot {x v y : J} (hx : WF x) (hv : WF v) (h : insertRoot x v = some y) : WF y := by
  cases x <;> cases v <;> simp [insertRoot] at h
  subst h; exact wf_mergeK hx hv

/-- a collector message -/
structure Msg where
  path : List Pt
  val : J

theorem wf_apply {s : Option J} {m : Msg} (hs : ∀ x, s = some x → WF x) (hv : WF m.val) :
    ∀ y, apply s m.path m.val = some y → WF y := by
  intro y h
  cases s with
  | none => simp [apply] at h
  | some x =>
    simp only [apply, Option.bind_some] at h
    split at h
    · exact wf_insertRoot (hs x rfl) hv h
    · exact wf_insertAt _ _ _ _ (hs x rfl) hv h

/-- `insertRoot` is `insertAt` with the empty path for object values -/
theorem insertRoot_eq {x : J} {inc : KVs} : insertRoot x (.obj inc) = insertAt x [] (.obj inc) := by
  cases x <;> simp [insertRoot, insertAt, finish]

/-- a message whose root step carries an object is one `insertAt` -/
theorem apply_eq {p : List Pt} {v : J} (r : p = [] → ∃ inc, v = .obj inc) (s : Option J) :
    apply s p v = s.bind fun x => insertAt x p v := by
  cases p with
  | nil => obtain ⟨inc, rfl⟩ := r rfl; simp only [apply, List.isEmpty_nil, if_true, insertRoot_eq]
  | cons a t => rfl

/-- two independent messages commute on every (well-formed) accumulated response; root messages carry objects -/
theorem apply_comm {s : Option J} {m₁ m₂ : Msg} (hs : ∀ x, s = some x → WF x) (h₁ : WF m₁.val) (h₂ : WF m₂.val)
    (r₁ : m₁.path = [] → ∃ inc, m₁.val = .obj inc) (r₂ : m₂.path = [] → ∃ inc, m₂.val = .obj inc)
    (hi : Indep m₁.path m₁.val m₂.path m₂.val) :
    apply (apply s m₁.path m₁.val) m₂.path m₂.val = apply (apply s m₂.path m₂.val) m₁.path m₁.val := by
  rw [apply_eq r₁, apply_eq r₂, apply_eq r₁, apply_eq r₂]
  cases s with
  | none => rfl
  | some x => exact insert_comm _ _ x _ _ (hs x rfl) h₁ h₂ hi

/-- `executorExtractValue` along a path, then `fin` on what is reached, rebuilt on the way back: `insertAt` is the
    case `fin = (finish · v)`, the scrubber's `Scr.deleteAt` another -/
def modAt (fin : J → Option J) : J → List Pt → Option J
  | x, [] => fin x
  | .obj kvs, ⟨f, none⟩ :: rest =>
    (modAt fin (childOf kvs f) rest).map fun c => .obj (put f c kvs)
  | .obj kvs, ⟨f, some i⟩ :: rest =>
    match lookup f kvs with
    | none => (updAt [] i fun e => modAt fin e rest).map fun l => .obj (put f (.arr l) kvs)
    | some (.arr l0) => (updAt l0 i fun e => modAt fin e rest).map fun l => .obj (put f (.arr l) kvs)
    | some _ => none
  | _, _ :: _ => none

theorem insertAt_eq_modAt (v : J) : ∀ (p : List Pt) (x : J), insertAt x p v = modAt (finish · v) x p
  | [], x => by rw [insertAt, modAt]
  | ⟨f, none⟩ :: rest, .obj kvs => by rw [insertAt, modAt, insertAt_eq_modAt v rest]
  | ⟨f, some i⟩ :: rest, .obj kvs => by
    rw [insertAt, modAt, funext (insertAt_eq_modAt v rest)]; rfl
  | _ :: _, .null | _ :: _, .leaf _ | _ :: _, .arr _ => by simp only [insertAt, modAt]

end Ins
