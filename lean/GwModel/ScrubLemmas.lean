import GwModel.Scrub
namespace Scrub

theorem mem_dedupe {p : List String} : ∀ {l : List (List String)}, p ∈ dedupe l ↔ p ∈ l
  | [] => by simp [dedupe]
  | q :: qs => by
    unfold dedupe
    by_cases h : q ∈ qs
    · simp only [h, if_true]
      rw [mem_dedupe (l := qs)]
      constructor
      · exact fun hp => List.mem_cons_of_mem _ hp
      · intro hp
        rcases List.mem_cons.1 hp with rfl | hp
        · exact h
        · exact hp
    · simp only [h, if_false, List.mem_cons]
      rw [mem_dedupe (l := qs)]

theorem nodup_dedupe : ∀ (l : List (List String)), (dedupe l).Nodup
  | [] => by simp [dedupe]
  | q :: qs => by
    unfold dedupe
    by_cases h : q ∈ qs
    · simp only [h, if_true]; exact nodup_dedupe qs
    · simp only [h, if_false]
      exact List.nodup_cons.2 ⟨fun hm => h (mem_dedupe.1 hm), nodup_dedupe qs⟩

/-- what it means for a path to deserve scrubbing, on the flattened client selection -/
def NeedsScrub (sel : List S) (p : List String) : Prop :=
  p ≠ [] ∧ ∃ target, walkTo sel p = some target ∧ hasIdKey target = false

/-- the decision `scrubWalk` takes at one insertion point -/
def listed (sel : List S) (ip : List String) : Bool :=
  match walkTo sel ip with
  | some target => !hasIdKey target && !ip.isEmpty
  | none => false

theorem needsScrub_iff {sel : List S} {p : List String} : NeedsScrub sel p ↔ listed sel p = true := by
  unfold NeedsScrub listed
  cases walkTo sel p with
  | none => simp
  | some t => cases p <;> simp

/-- a successful walk lists, in order, the insertion points of all steps below it at which it decides to -/
theorem mem_listed {sel : List S} {l : List PStep} {p : List String} :
    p ∈ (l.map PStep.ip).filter (listed sel) ↔ (∃ t ∈ l, t.ip = p) ∧ NeedsScrub sel p := by
  rw [List.mem_filter, List.mem_map, needsScrub_iff]

mutual
theorem scrubWalk_eq (sel : List S) : ∀ (s : PStep) (ps : List (List String)),
    scrubWalk sel s = some ps → ps = ((allSteps s).map PStep.ip).filter (listed sel)
  | .mk ip kids, ps, h => by
    rw [scrubWalk] at h
    split at h
    · cases h
    · rename_i target hw
      split at h
      · cases h
      · rename_i rest hk
        cases h
        rw [allSteps, List.map_cons, List.filter_cons, ← scrubWalks_eq sel kids rest hk]
        simp only [listed, PStep.ip, hw]
        split <;> rfl
theorem scrubWalks_eq (sel : List S) : ∀ (l : List PStep) (ps : List (List String)),
    scrubWalks sel l = some ps → ps = ((allStepsL l).map PStep.ip).filter (listed sel)
  | [], ps, h => by rw [scrubWalks] at h; cases h; rfl
  | s :: ss, ps, h => by
    rw [scrubWalks] at h
    split at h
    · rename_i a b ha hb
      cases h
      rw [allStepsL, List.map_append, List.filter_append, ← scrubWalk_eq sel s a ha, ← scrubWalks_eq sel ss b hb]
    · cases h
end

theorem scrubWalk_sound (sel : List S) : ∀ (s : PStep) (ps : List (List String)),
    scrubWalk sel s = some ps → ∀ p ∈ ps, (∃ t ∈ allSteps s, t.ip = p) ∧ NeedsScrub sel p :=
  fun s ps h _ hp => mem_listed.1 (scrubWalk_eq sel s ps h ▸ hp)

theorem scrubWalk_complete (sel : List S) : ∀ (s : PStep) (ps : List (List String)),
    scrubWalk sel s = some ps → ∀ t ∈ allSteps s, NeedsScrub sel t.ip → t.ip ∈ ps :=
  fun s ps h t ht hn => scrubWalk_eq sel s ps h ▸ mem_listed.2 ⟨⟨t, ht, rfl⟩, hn⟩

/-- `FieldsToScrub["id"]` lists exactly the insertion points of the plan at which the client's flattened
    selection has no response key `id`, each once -/
theorem scrubPaths_exact (sel : List S) (roots : List PStep) (ps : List (List String))
    (h : scrubPaths sel roots = some ps) :
    ps.Nodup ∧ (∀ p, p ∈ ps ↔ (∃ t ∈ allStepsL roots, t.ip = p) ∧ NeedsScrub sel p) := by
  unfold scrubPaths at h
  obtain ⟨raw, hw, rfl⟩ := Option.map_eq_some_iff.1 h
  exact ⟨nodup_dedupe raw, fun p => by rw [mem_dedupe, scrubWalks_eq sel roots raw hw, mem_listed]⟩

end Scrub
