import GwModel.PlanNoFrag
import GwModel.PlanTotal
/-! `extractSelection` does not run out of fuel (C08): on a selection without named fragments, more fuel than the
    nesting depth of the selection is enough — together with `PlanTotal` the call then ends with the step's
    selection or with a field that has no location, nothing else. -/
namespace Pl

mutual
def depth : Sel → Nat
  | .field _ _ _ _ _ _ sub => depthL sub + 1
  | .inline _ _ sub => depthL sub + 1
  | .spread _ _ => 1
def depthL : List Sel → Nat
  | [] => 0
  | s :: ss => max (depth s) (depthL ss)
end

theorem depth_le_depthL : ∀ {l : List Sel} {s : Sel}, s ∈ l → depth s ≤ depthL l
  | x :: l, s, h => by
    simp only [depthL]
    rcases List.mem_cons.1 h with h | h
    · subst h; exact Nat.le_max_left _ _
    · exact Nat.le_trans (depth_le_depthL h) (Nat.le_max_right _ _)

theorem depthL_le_of_mem : ∀ {l : List Sel} {d : Nat}, (∀ s ∈ l, depth s ≤ d) → depthL l ≤ d
  | [], _, _ => Nat.zero_le _
  | x :: l, d, h => by
    simp only [depthL]
    exact Nat.max_le.2 ⟨h x (List.mem_cons_self ..), depthL_le_of_mem (fun s hs => h s (List.mem_cons_of_mem _ hs))⟩

theorem grouped_depth {env : Env} {pl : Loc} {T : String} {sf : List FragDef} {sels : List Sel} {l : Loc} {x : Sel}
    (h : GroupedAt env pl T sf sels l x) : depth x ≤ depthL sels := by
  cases h with
  | field hm _ => exact depth_le_depthL hm
  | spread hm _ _ => exact depth_le_depthL hm
  | inline hm hp =>
    refine Nat.le_trans ?_ (depth_le_depthL hm)
    exact Nat.succ_le_succ (depthL_le_of_mem fun s hs => depth_le_depthL (hp.2 s hs).1)

/-- what the induction hypothesis says about a recursive call -/
def RecFuel (fuel : Nat) (rec : Cfg → St → Except Err (List Sel × St)) : Prop :=
  ∀ cfg st, noSpreadL cfg.sel = true → depthL cfg.sel < fuel → rec cfg st ≠ .error .fuel

/-- **more fuel than the nesting depth is enough**: on a selection without named fragments `extractSelection`
    never ends with the model's out-of-fuel error -/
theorem extract_fuel (env : Env) : ∀ (fuel : Nat), RecFuel fuel (extract env fuel) := by
  intro fuel cfg st hns hd h
  refine extract_error_induct (motive := fun n cfg _ e => noSpreadL cfg.sel = true → depthL cfg.sel < n → e ≠ .fuel)
    (fun _ _ _ hd => absurd hd (Nat.not_lt_zero _)) ?_ ?_ fuel cfg st _ h hns hd rfl
  · intro n cfg st e hg _ _ he
    rcases group_error _ _ hg with ⟨T', f, _, hl⟩ | ⟨name, dirs, _, rfl⟩
    · rcases locate_error_cases hl with ⟨_, rfl⟩ | ⟨_, rfl⟩ <;> cases he
    · cases he
  · intro n cfg st lf lfr st1 pre s post pre' st2 e hg _ hcur _ hs hns hd
    have hm : s ∈ current cfg lf := hcur ▸ List.mem_append_right _ (List.mem_cons_self ..)
    have hsn := current_noSpread hg hns s hm
    -- the selection is bundled for the current location (no deeper than the given one), or is the added `id`
    have hsd : depth s ≤ n ∨ s = idField := by
      rcases List.mem_append.1 hm with hm | hm
      · exact Or.inl (Nat.le_of_lt_succ (Nat.lt_of_le_of_lt (grouped_depth ((group_grouped hg).get s hm)) hd))
      · split at hm
        · exact Or.inr (List.mem_singleton.1 hm)
        · cases hm
    cases hs with
    | noLocal => exact fun he => nomatch he
    | field hne hr =>
      rcases hsd with hsd | hsd
      · exact hr hsn hsd
      · cases hsd; exact absurd rfl hne
    | inline hr =>
      rcases hsd with hsd | hsd
      · exact hr hsn hsd
      · cases hsd
    | spread => cases hsn

/-! ### a selection without spreads never meets an undefined fragment -/

def RecNoFrag (rec : Cfg → St → Except Err (List Sel × St)) : Prop :=
  ∀ cfg st name, noSpreadL cfg.sel = true → rec cfg st ≠ .error (.noFragment name)

theorem extract_no_fragment (env : Env) : ∀ (fuel : Nat), RecNoFrag (extract env fuel) := by
  intro fuel cfg st name hns h
  refine extract_error_induct (motive := fun _ cfg _ e => noSpreadL cfg.sel = true → e ≠ .noFragment name)
    (fun _ _ _ he => nomatch he) ?_ ?_ fuel cfg st _ h hns rfl
  · intro n cfg st e hg hns he
    rcases group_error _ _ hg with ⟨T', f, _, hl⟩ | ⟨nm, dirs, hm, _⟩
    · rcases locate_error_cases hl with ⟨_, rfl⟩ | ⟨_, rfl⟩ <;> cases he
    · exact absurd (noSpreadL_iff.1 hns _ hm) (by simp [noSpread])
  · intro n cfg st lf lfr st1 pre s post pre' st2 e hg _ hcur _ hs hns
    have hsn := current_noSpread hg hns s (hcur ▸ List.mem_append_right _ (List.mem_cons_self ..))
    cases hs with
    | noLocal => exact fun he => nomatch he
    | field _ hr => exact hr hsn
    | inline hr => exact hr hsn
    | spread => cases hsn

theorem extract_no_fragment_error (env : Env) (fuel : Nat) (cfg : Cfg) (st : St) (hns : noSpreadL cfg.sel = true)
    (name : String) : extract env fuel cfg st ≠ .error (.noFragment name) :=
  extract_no_fragment env fuel cfg st name hns

end Pl
