import GwModel.PlanLemmas
/-! Confinement of planned steps (C02): whatever `extractSelection` leaves in a step's selection set and in the
    fragment definitions it leaves behind for the step is offered, according to the routing table, by the
    service the step is sent to (or is the join `id`).  By induction on the planner's recursion (fuel); holds
    for every routing table, priority list, document, nesting of fragments and wrappers.

    The argument (`extract_fields`) is the same for every property `P loc type field` of the place the chooser picks;
    `PlanPlaced` uses it a second time. -/
namespace Pl

/-- the routing table lists `loc` for `type.field` -/
def Offers (env : Env) (loc : Loc) (type field : String) : Prop :=
  ∃ possible, urlFor env type field = some possible ∧ loc ∈ possible

mutual
/-- every field of the selection, at every depth, is the join id or is offered by `loc` under the type it is
    selected on; fragment spreads are covered through the step's fragment definitions (`ConfFrags`) -/
def ConfSel (env : Env) (loc : Loc) : String → Sel → Prop
  | T, .field _ n _ _ _ typ sub => (n = "id" ∨ Offers env loc T n) ∧ ConfSels env loc typ sub
  | T, .inline c _ sub => ConfSels env loc (if c == "" then T else c) sub
  | _, .spread _ _ => True
def ConfSels (env : Env) (loc : Loc) : String → List Sel → Prop
  | _, [] => True
  | T, s :: ss => ConfSel env loc T s ∧ ConfSels env loc T ss
end

def ConfFrags (env : Env) (loc : Loc) (fs : List FragDef) : Prop := ∀ f ∈ fs, ConfSels env loc f.cond f.sub

/-! ### the same for any property of (type, field) -/

mutual
/-- every field of the selection, at every depth, is the join id or satisfies `P` with the type it is selected on -/
def FieldsSat (P : String → String → Prop) : String → Sel → Prop
  | T, .field _ n _ _ _ typ sub => (n = "id" ∨ P T n) ∧ FieldsSatL P typ sub
  | T, .inline c _ sub => FieldsSatL P (if c == "" then T else c) sub
  | _, .spread _ _ => True
def FieldsSatL (P : String → String → Prop) : String → List Sel → Prop
  | _, [] => True
  | T, s :: ss => FieldsSat P T s ∧ FieldsSatL P T ss
end

def FragsSat (P : String → String → Prop) (fs : List FragDef) : Prop := ∀ f ∈ fs, FieldsSatL P f.cond f.sub

theorem fieldsSatL_append {P : String → String → Prop} {T : String} :
    ∀ {a b : List Sel}, FieldsSatL P T a → FieldsSatL P T b → FieldsSatL P T (a ++ b)
  | [], _, _, hb => hb
  | _ :: _, _, ha, hb => ⟨ha.1, fieldsSatL_append ha.2 hb⟩

theorem fragsSat_putFrag {P : String → String → Prop} {d : FragDef} (hd : FieldsSatL P d.cond d.sub) :
    ∀ {fs : List FragDef}, FragsSat P fs → FragsSat P (putFrag d fs)
  | [], _ => by
    intro f hf
    rw [List.mem_singleton.1 hf]; exact hd
  | e :: es, h => by
    intro f hf
    simp only [putFrag] at hf
    split at hf
    · rcases List.mem_cons.1 hf with rfl | hf
      · exact hd
      · exact h f (List.mem_cons_of_mem _ hf)
    · rcases List.mem_cons.1 hf with rfl | hf
      · exact h _ (List.mem_cons_self ..)
      · exact fragsSat_putFrag hd (fun g hg => h g (List.mem_cons_of_mem _ hg)) f hf

theorem kickOff_frags {cfg : Cfg} {lfr : Buckets FragDef} {lf : Buckets Sel} {st st1 : St}
    (h : kickOff cfg lfr lf st = .ok st1) : st1.frags = st.frags :=
  kickOff_induct (motive := fun _ st st1 => st1.frags = st.frags) (fun _ => rfl) (fun _ _ _ _ h => h)
    (fun _ _ _ _ _ _ _ _ _ h => h) lf st st1 h

/-- **`extractSelection` asks a service only for fields the chooser places there**: if whatever location the chooser
    picks for a field satisfies `P`, every field of what is returned for the step satisfies `P` at the step's location. -/
theorem extract_fields {env : Env} {P : Loc → String → String → Prop}
    (hP : ∀ {pl T f l}, locate env pl T f = .ok l → P l T f) {fuel : Nat} {cfg : Cfg} {st : St} {sel : List Sel} {st' : St}
    (h : extract env fuel cfg st = .ok (sel, st')) (hf : FragsSat (P cfg.loc) st.frags) :
    FieldsSatL (P cfg.loc) cfg.parentType sel ∧ FragsSat (P cfg.loc) st'.frags := by
  refine extract_induct (motive := fun cfg st sel st' => FragsSat (P cfg.loc) st.frags →
    FieldsSatL (P cfg.loc) cfg.parentType sel ∧ FragsSat (P cfg.loc) st'.frags) ?_ fuel cfg st sel st' h hf
  clear h hf
  intro cfg st lf lfr st1 sel st' hg hk hp hf
  have hcur : ∀ a n g gv d t sub, .field a n g gv d t sub ∈ current cfg lf → n = "id" ∨ P cfg.loc cfg.parentType n := by
    intro a n g gv d t sub hs
    rcases List.mem_append.1 hs with hs | hs
    · cases (group_grouped hg).get _ hs with
      | field _ hl => exact Or.inr (hP hl)
    · split at hs
      · cases List.mem_singleton.1 hs; exact Or.inl rfl
      · cases hs
  rw [← kickOff_frags hk] at hf
  clear hk
  generalize current cfg lf = cur at hp hcur
  induction hp with
  | nil => exact ⟨trivial, hf⟩
  | cons h1 _ ih =>
    have hrest := fun hf' => ih hf' (fun a n g gv d t sub hs => hcur a n g gv d t sub (List.mem_cons_of_mem _ hs))
    cases h1 with
    | leaf => exact ⟨⟨⟨hcur _ _ _ _ _ _ _ (List.mem_cons_self ..), trivial⟩, (hrest hf).1⟩, (hrest hf).2⟩
    | field _ hr =>
      have a := hr hf
      exact ⟨⟨⟨hcur _ _ _ _ _ _ _ (List.mem_cons_self ..), a.1⟩, (hrest a.2).1⟩, (hrest a.2).2⟩
    | inline hr => have a := hr hf; exact ⟨⟨a.1, (hrest a.2).1⟩, (hrest a.2).2⟩
    | spreadNew _ hr _ =>
      have a := hr hf
      have b := hrest (fun f hf' => (List.mem_append.1 hf').elim (a.2 f) fun h => by rw [List.mem_singleton.1 h]; exact a.1)
      exact ⟨⟨trivial, b.1⟩, b.2⟩
    | spreadSame _ hr _ _ => have a := hr hf; exact ⟨⟨trivial, (hrest a.2).1⟩, (hrest a.2).2⟩
    | spreadInline _ hr _ hb =>
      have a := hr hf
      refine ⟨⟨?_, (hrest a.2).1⟩, (hrest a.2).2⟩
      simp only [FieldsSat, (Bool.or_eq_false_iff.1 hb).2, Bool.false_eq_true, if_false]
      exact a.1

/-! ### confinement -/

mutual
theorem confSel_iff {env : Env} {loc : Loc} : ∀ (T : String) (s : Sel), ConfSel env loc T s ↔ FieldsSat (Offers env loc) T s
  | T, .field _ n _ _ _ typ sub => by simp only [ConfSel, FieldsSat, confSels_iff typ sub]
  | T, .inline c _ sub => by simp only [ConfSel, FieldsSat, confSels_iff _ sub]
  | _, .spread _ _ => Iff.rfl
theorem confSels_iff {env : Env} {loc : Loc} : ∀ (T : String) (l : List Sel), ConfSels env loc T l ↔ FieldsSatL (Offers env loc) T l
  | _, [] => Iff.rfl
  | T, s :: ss => by simp only [ConfSels, FieldsSatL, confSel_iff T s, confSels_iff T ss]
end

theorem confFrags_iff {env : Env} {loc : Loc} {fs : List FragDef} : ConfFrags env loc fs ↔ FragsSat (Offers env loc) fs :=
  forall₂_congr fun f _ => confSels_iff f.cond f.sub

theorem confSels_append {env : Env} {loc : Loc} {T : String} :
    ∀ {a b : List Sel}, ConfSels env loc T a → ConfSels env loc T b → ConfSels env loc T (a ++ b) :=
  fun ha hb => (confSels_iff ..).2 (fieldsSatL_append ((confSels_iff ..).1 ha) ((confSels_iff ..).1 hb))

theorem confFrags_putFrag {env : Env} {loc : Loc} {d : FragDef} (hd : ConfSels env loc d.cond d.sub) :
    ∀ {fs : List FragDef}, ConfFrags env loc fs → ConfFrags env loc (putFrag d fs) :=
  fun h => confFrags_iff.2 (fragsSat_putFrag ((confSels_iff ..).1 hd) (confFrags_iff.1 h))

/-- the chooser picks a location that offers the field -/
theorem locate_offers {env : Env} {pl : Loc} {T f : String} {l : Loc} (h : locate env pl T f = .ok l) :
    Offers env l T f := by
  unfold locate at h
  split at h
  · cases h
  · rename_i possible hp
    split at h
    · rename_i l' hl
      cases h
      exact ⟨possible, hp, Sel.choose_mem hl⟩
    · cases h

/-- what the induction hypothesis says about a recursive call of `extractSelection` at location `loc` -/
def RecOK (env : Env) (loc : Loc) (rec : Cfg → St → Except Err (List Sel × St)) : Prop :=
  ∀ cfg st sel st', rec cfg st = .ok (sel, st') → cfg.loc = loc → ConfFrags env loc st.frags →
    ConfSels env loc cfg.parentType sel ∧ ConfFrags env loc st'.frags

/-- **Confinement of `extractSelection`.**  For every amount of fuel, configuration and state: the selection
    set returned for the step and the fragment definitions left behind for it only hold fields the routing
    table offers at the step's location (or the join id). -/
theorem extract_confined (env : Env) : ∀ (fuel : Nat) (loc : Loc), RecOK env loc (extract env fuel) := by
  intro fuel loc cfg st sel st' h hl hf
  subst hl
  have := extract_fields (P := Offers env) locate_offers h (confFrags_iff.1 hf)
  exact ⟨(confSels_iff ..).2 this.1, confFrags_iff.2 this.2⟩

/-! ### whole plans -/

/-- a planned step asks its service only for what the routing table says that service offers -/
def StepConfined (env : Env) (s : Step) : Prop :=
  ConfSels env s.location s.parentType s.sel ∧ ConfFrags env s.location s.frags

/-- **Every step of every plan is confined to its service** (C02), whatever the routing table, the priority
    list, the document and the amount of fuel. -/
theorem planOperation_confined {env : Env} {fuel : Nat} {operation : String} {sels : List Sel} {steps : List Step}
    (h : planOperation env fuel operation sels = .ok steps) : ∀ s ∈ steps, StepConfined env s :=
  planOperation_forall (fun _ p _ _ _ he => extract_confined env fuel p.location _ _ _ _ he rfl (fun _ hf => nomatch hf)) h

end Pl
