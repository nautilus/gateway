import GwModel.PlanNoFrag
import GwModel.PlanTotal
/-! Planning a document whose every field has a location (C08, "a valid query gets a plan"; documents without named
    fragments).  `routedL env T sels`: every field of `sels`, read against the parent type the planner will read it
    against (`T` at the top, the field's own type below a field, the type condition below an inline fragment), has an
    entry in the routing table.  A document that validates against the merged schema is routed: every field it names
    is a field of that schema, and the routing table has an entry for every field of every service schema the merged
    schema was built from (`Props.C03.routed_exactly_to_declaring_services`).

    Proved: for a routed document the planner never ends with "no location for field" — neither for the client's
    selection nor for any selection it builds itself (bundles for other services, re-wrapped in the inline fragments
    they were found under, merged into pending steps).  Together with `planOperation_error_benign` and
    `extract_no_fragment` the only failure left is the model's own fuel. -/
namespace Pl

mutual
def routed (env : Env) (T : String) : Sel → Bool
  | .field _ n _ _ _ t sub => (urlFor env T n).isSome && routedL env t sub
  | .inline c _ sub => routedL env (if c == "" then T else c) sub
  | .spread _ _ => true
def routedL (env : Env) (T : String) : List Sel → Bool
  | [] => true
  | s :: ss => routed env T s && routedL env T ss
end

theorem routedL_iff {env : Env} {T : String} : ∀ {l : List Sel}, routedL env T l = true ↔ ∀ s ∈ l, routed env T s = true
  | [] => by simp [routedL]
  | x :: l => by simp only [routedL, Bool.and_eq_true, List.forall_mem_cons, routedL_iff (l := l)]

/-! ### bundles of a routed selection are routed -/
def BucketsRouted (env : Env) (T : String) (b : Buckets Sel) : Prop := ∀ l ss, (l, ss) ∈ b → ∀ s ∈ ss, routed env T s = true

theorem grouped_routed {env : Env} {pl : Loc} {T : String} {sf : List FragDef} {sels : List Sel} {l : Loc} {x : Sel}
    (hr : routedL env T sels = true) (h : GroupedAt env pl T sf sels l x) : routed env T x = true := by
  cases h with
  | field hm _ => exact routedL_iff.1 hr _ hm
  | spread hm _ _ => rfl
  | inline hm hp => exact routedL_iff.2 fun s hs => routedL_iff.1 (routedL_iff.1 hr _ hm) s (hp.2 s hs).1

/-- grouping a routed selection asks the chooser only about fields with a routing entry -/
theorem group_routed {env : Env} {pl : Loc} {T : String} {sf : List FragDef} :
    ∀ (sels : List Sel) (acc : Buckets Sel × Buckets FragDef), noSpreadL sels = true → routedL env T sels = true →
      BucketsRouted env T acc.1 →
      (∀ t f, group env pl T sf sels acc ≠ .error (.noRoute t f)) ∧
      (∀ res, group env pl T sf sels acc = .ok res → BucketsRouted env T res.1) := by
  intro sels acc hns hr ha
  refine ⟨fun t f h => ?_, fun res h =>
    group_invariant (I := Buckets.All fun _ s => routed env T s = true) h (fun _ _ _ hx hb => hb.add (grouped_routed hr hx)) ha⟩
  rcases group_error _ _ h with ⟨T', n, hask, hl⟩ | ⟨_, _, _, he⟩
  · rcases locate_error_cases hl with ⟨hnone, _⟩ | ⟨_, he⟩
    · have : (urlFor env T' n).isSome = true := by
        cases hask with
        | field hm => exact (Bool.and_eq_true_iff.1 (routedL_iff.1 hr _ hm)).1
        | inline hm hs => exact (Bool.and_eq_true_iff.1 (routedL_iff.1 (routedL_iff.1 hr _ hm) _ hs)).1
        | spread hm _ _ => exact absurd (noSpreadL_iff.1 hns _ hm) (by simp [noSpread])
      rw [hnone] at this; cases this
    · cases he
  · cases he

/-! ### the wrappers: which type the innermost wrapped selection is read against -/

/-- the type a selection is read against after passing through the wrappers -/
def typeAfter (T : String) : List Sel → String
  | [] => T
  | .inline c _ _ :: ws => typeAfter (if c == "" then T else c) ws
  | _ :: ws => typeAfter T ws

/-- inline fragments without a type condition (what is passed below a field) leave the type as it is -/
theorem typeAfter_untyped (T : String) : ∀ (ws : List Sel), (∀ w ∈ ws, ∃ d, w = .inline "" d []) → typeAfter T ws = T
  | [], _ => rfl
  | w :: ws, h => by
    obtain ⟨d, rfl⟩ := h w (List.mem_cons_self ..)
    exact typeAfter_untyped T ws fun w hw => h w (List.mem_cons_of_mem _ hw)

theorem typeAfter_append_inline (T : String) (c : String) (d : List Dir) (s : List Sel) :
    ∀ (ws : List Sel), typeAfter T (ws ++ [.inline c d s]) = (if c == "" then typeAfter T ws else c)
  | [] => by simp [typeAfter]
  | .inline c' d' s' :: ws => typeAfter_append_inline _ c d s ws
  | .field .. :: ws => typeAfter_append_inline _ c d s ws
  | .spread .. :: ws => typeAfter_append_inline _ c d s ws

theorem routedL_nestIn {env : Env} : ∀ (ws inner : List Sel) (T : String), inlineOnly ws = true →
    routedL env T (nestIn ws inner) = routedL env (typeAfter T ws) inner
  | [], _, _, _ => rfl
  | .inline c d s :: ws, inner, T, h => by
    simp only [nestIn, routedL, routed, Bool.and_true, typeAfter, routedL_nestIn ws inner _ h]
  | .spread .. :: _, _, _, h => by simp [inlineOnly] at h
  | .field .. :: _, _, _, h => by simp [inlineOnly] at h

/-- a selection wrapped in inline fragments is routed when the inner selection is, read against the type the
    wrappers lead to -/
theorem wrapNest_routed {env : Env} : ∀ (ws inner : List Sel) (defs : List FragDef) (T : String), inlineOnly ws = true →
    routedL env (typeAfter T ws) inner = true →
    ∃ x, wrapNest ws inner defs = .ok (x, defs) ∧ routedL env T x = true :=
  fun ws inner defs T hw hi => ⟨_, wrapNest_inlineOnly ws inner defs hw, (routedL_nestIn ws inner T hw).trans hi⟩

/-! ### pending steps stay routed -/
def QueueRouted (env : Env) (queue : List Payload) : Prop := ∀ p ∈ queue, routedL env p.parentType p.sel = true

theorem appendNew_routed {env : Env} {T : String} {source target : List Sel} (ht : routedL env T target = true)
    (hs : routedL env T source = true) : routedL env T (appendNew target source) = true :=
  routedL_iff.2 fun _ hx => (appendNew_mem hx).elim (routedL_iff.1 ht _) (routedL_iff.1 hs _)

theorem merge_routed {env : Env} (o p : Payload) (ho : routedL env o.parentType o.sel = true)
    (hp : routedL env p.parentType p.sel = true) (hs : samePlace o p = true) :
    routedL env o.parentType (appendNew o.sel p.sel) = true := by
  simp only [samePlace, Bool.and_eq_true, beq_iff_eq] at hs
  exact appendNew_routed ho (hs.1.2 ▸ hp)

theorem kickOff_routed {env : Env} {cfg : Cfg} {lfr : Buckets FragDef} (hw : inlineOnly cfg.wrapper = true)
    (hT : typeAfter cfg.parentType cfg.wrapper = cfg.parentType) :
    ∀ (lf : Buckets Sel) (st : St), BucketsRouted env cfg.parentType lf → QueueRouted env st.queue →
      (∀ t f, kickOff cfg lfr lf st ≠ .error (.noRoute t f)) ∧
      (∀ st1, kickOff cfg lfr lf st = .ok st1 → QueueRouted env st1.queue) := by
  intro lf st hb hq
  refine ⟨fun t f h => ?_, fun st1 hk => kickOff_forall (X := fun p => routedL env p.parentType p.sel = true) hw ?_ lf st st1 hk
    (fun l ss hm _ => by rw [routedL_nestIn _ _ _ hw, hT]; exact routedL_iff.2 (hb l ss hm)) hq⟩
  · obtain ⟨st1, hk⟩ := kickOff_ok cfg lfr lf st
    rw [hk] at h; cases h
  · exact merge_routed

/-- the invariant of one call of `extractSelection` on a routed selection -/
def RecRouted (env : Env) (rec : Cfg → St → Except Err (List Sel × St)) : Prop :=
  ∀ cfg st, routedL env cfg.parentType cfg.sel = true → noSpreadL cfg.sel = true → inlineOnly cfg.wrapper = true →
    typeAfter cfg.parentType cfg.wrapper = cfg.parentType → QueueRouted env st.queue →
    (∀ t f, rec cfg st ≠ .error (.noRoute t f)) ∧ (∀ sel st', rec cfg st = .ok (sel, st') → QueueRouted env st'.queue)

/-- the wrappers lead back to the type the configuration's selection is read against -/
def TypeKept (cfg : Cfg) : Prop := typeAfter cfg.parentType cfg.wrapper = cfg.parentType

/-- ... and still do in the calls made for what the planner goes through itself -/
theorem calls_typeKept {cfg : Cfg} (hw : inlineOnly cfg.wrapper = true) (hT : TypeKept cfg) (s : Sel) : CallsIn TypeKept cfg s := by
  refine ⟨fun a n g gv d t sub _ _ => typeAfter_untyped _ _ (fieldWrapper_untyped _ _ hw), fun c d sub _ => ?_⟩
  show typeAfter (if c == "" then cfg.parentType else c) (cfg.wrapper ++ [.inline c d sub]) = _
  rw [typeAfter_append_inline]
  have hT : typeAfter cfg.parentType cfg.wrapper = cfg.parentType := hT
  cases hc : c == "" <;> simp only [hc, Bool.false_eq_true, if_false, if_true, hT]

/-- a configuration `extractSelection` is called with on a routed document -/
def RoutedCfg (env : Env) (cfg : Cfg) : Prop := routedL env cfg.parentType cfg.sel = true ∧ TypeKept cfg

theorem RoutedCfg.calls {env : Env} {cfg : Cfg} (hn : NoFrag cfg) (hc : RoutedCfg env cfg) {lf : Buckets Sel} {lfr : Buckets FragDef}
    (hg : group env cfg.loc cfg.parentType cfg.stepFrags cfg.sel ([], []) = .ok (lf, lfr)) {s : Sel} (hs : s ∈ current cfg lf) :
    CallsIn (RoutedCfg env) cfg s := by
  refine CallsIn.and ?_ (calls_typeKept hn.2 hc.2 s)
  have hsr : s = idField ∨ routed env cfg.parentType s = true := by
    rcases List.mem_append.1 hs with hs | hs
    · exact Or.inr (grouped_routed hc.1 ((group_grouped hg).get s hs))
    · split at hs
      · exact Or.inl (List.mem_singleton.1 hs)
      · cases hs
  refine ⟨fun a n g gv d t sub he hne => ?_, fun c d sub he => ?_⟩ <;> subst he
  · exact (Bool.and_eq_true_iff.1 (hsr.resolve_left fun he => by cases he; exact hne rfl)).2
  · exact hsr.resolve_left fun he => nomatch he

theorem RoutedCfg.kick {env : Env} {cfg : Cfg} (hn : NoFrag cfg) (hc : RoutedCfg env cfg) {lf : Buckets Sel} {lfr : Buckets FragDef}
    (hg : group env cfg.loc cfg.parentType cfg.stepFrags cfg.sel ([], []) = .ok (lf, lfr)) {l : Loc} {ss : List Sel}
    (hm : (l, ss) ∈ lf) : routedL env cfg.parentType (nestIn cfg.wrapper ss) = true := by
  rw [routedL_nestIn _ _ _ hn.2, hc.2]
  exact routedL_iff.2 fun s hs => grouped_routed hc.1 (group_grouped hg l ss hm s hs)

theorem extract_queueRouted {env : Env} {fuel : Nat} {cfg : Cfg} {st : St} {sel : List Sel} {st' : St}
    (h : extract env fuel cfg st = .ok (sel, st')) (hn : NoFrag cfg) (hc : RoutedCfg env cfg) (hq : QueueRouted env st.queue) :
    QueueRouted env st'.queue :=
  extract_forall_queue (X := fun p => routedL env p.parentType p.sel = true) (fun hn hc hg hs => hc.calls hn hg hs)
    (fun hn hc hg hm _ => hc.kick hn hg hm) merge_routed h hn hc hq

/-- **on a routed selection `extractSelection` never fails for want of a location**, and what it queues is routed -/
theorem extract_routed (env : Env) : ∀ (fuel : Nat), RecRouted env (extract env fuel) := by
  intro fuel cfg st hr hns hw hT hq
  refine ⟨fun t f h => ?_, fun sel st' h => extract_queueRouted h ⟨hns, hw⟩ ⟨hr, hT⟩ hq⟩
  refine extract_error_induct (motive := fun _ cfg st e => NoFrag cfg → RoutedCfg env cfg → QueueRouted env st.queue → e ≠ .noRoute t f)
    (fun _ _ _ _ _ he => nomatch he) ?_ ?_ fuel cfg st _ h ⟨hns, hw⟩ ⟨hr, hT⟩ hq rfl
  · intro n cfg st e hg hn hc _ he
    exact (group_routed (pl := cfg.loc) (sf := cfg.stepFrags) cfg.sel ([], []) hn.1 hc.1 (fun _ _ h => nomatch h)).1 t f (he ▸ hg)
  · intro n cfg st lf lfr st1 pre s post pre' st2 e hg hk hcur hp hs hn hc hq
    have hmem : ∀ x ∈ pre ++ s :: post, x ∈ current cfg lf := fun x hx => hcur ▸ hx
    have calls := fun x hx => (hn.calls hg (hmem x hx)).and (hc.calls hn hg (hmem x hx))
    -- going through the selections before the failing one has kept the pending steps routed
    have hq2 : QueueRouted env st2.queue :=
      hp.forall_queue (C := fun c => NoFrag c ∧ RoutedCfg env c) (fun _ _ _ _ h hc => extract_queueRouted h hc.1 hc.2)
        (fun x hx => ⟨current_noSpread hg hn.1 x (hmem x (List.mem_append_left _ hx)), calls x (List.mem_append_left _ hx)⟩)
        (kickOff_forall hn.2 merge_routed lf st st1 hk (fun l ss hm _ => hc.kick hn hg hm) hq)
    have hsn := current_noSpread hg hn.1 s (hmem s (List.mem_append_right _ (List.mem_cons_self ..)))
    obtain ⟨hf, hi⟩ := calls s (List.mem_append_right _ (List.mem_cons_self ..))
    cases hs with
    | noLocal => exact fun he => nomatch he
    | field hne hr => exact hr (hf _ _ _ _ _ _ _ rfl hne).1 (hf _ _ _ _ _ _ _ rfl hne).2 hq2
    | inline hr => exact hr (hi _ _ _ rfl).1 (hi _ _ _ rfl).2 hq2
    | spread => cases hsn

/-! ### whole plans -/

/-- **A routed document is never refused for want of a location**: whatever the planner does with the selection —
    bundling for other services, wrapping, merging into pending steps, descending — every field it looks up is one
    the document named, read against the type the document named it under. -/
theorem planOperation_routed {env : Env} {fuel : Nat} {operation : String} {sels : List Sel}
    (hns : noSpreadL sels = true) (hr : routedL env (rootTypeOf operation) sels = true) (t f : String) :
    planOperation env fuel operation sels ≠ .error (.noRoute t f) := by
  intro h
  have step : ∀ next p queue (acc : List Step) sel st, QueueRouted env (p :: queue) ∧ QueueNoSpread (p :: queue) →
      extract env fuel (stepCfg next p) { vars := [], frags := [], queue := queue } = .ok (sel, st) →
      QueueRouted env st.queue ∧ QueueNoSpread st.queue := by
    intro next p queue acc sel st ⟨hq, hn⟩ he
    have hp := hq p (List.mem_cons_self ..)
    have hpn := hn p (List.mem_cons_self ..)
    exact ⟨extract_queueRouted he ⟨hpn, rfl⟩ ⟨hp, rfl⟩ fun o ho => hq o (List.mem_cons_of_mem _ ho),
      extract_noSpread he hpn rfl fun o ho => hn o (List.mem_cons_of_mem _ ho)⟩
  rcases buildSteps_error (motive := fun _ queue _ => QueueRouted env queue ∧ QueueNoSpread queue) step _ _ _ _ h
    ⟨fun p hp => by rw [List.mem_singleton.1 hp]; exact hr, fun p hp => by rw [List.mem_singleton.1 hp]; exact hns⟩ with
    he | ⟨next, p, queue, acc, ⟨hq, hn⟩, he⟩
  · cases he
  · exact (extract_routed env fuel _ _ (hq p (List.mem_cons_self ..)) (hn p (List.mem_cons_self ..)) rfl rfl
      fun o ho => hq o (List.mem_cons_of_mem _ ho)).1 t f he

end Pl
