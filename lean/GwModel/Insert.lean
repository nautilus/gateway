/-! JSON-level model of the executor's stitching helpers (execute.go):

    * `merge`    — `executorMergeValues(existing, incoming)`
    * `insertAt` — `executorInsertObject(target, path, value)` for a non-empty path, i.e.
                   `executorExtractValue` (which creates missing objects, creates and pads missing lists) followed
                   by the key-by-key merge of `value` into the object reached
    * `insertRoot` — the same call with an empty path (the root step)

    Go's maps are unordered; the model keeps an object as an association list which `put` keeps in key order
    (keys are interned to `Nat` by the driver), so that equal objects are equal terms.  `lookup` and `put` share
    one scanning discipline (stop at the first key ≥ k), which makes their laws hold on every list; the
    order-sensitive theorems (`merge_merge_comm`, `insert_comm`, `apply_comm`) assume `WF` (keys strictly
    increasing, recursively), which `put`, `merge` and `insertAt` preserve and the decoder establishes.

    `none` stands for the Go function returning an error. -/
namespace Ins

inductive J where
  | null
  | leaf (s : String)            -- a scalar, by its JSON text
  | arr (xs : List J)
  | obj (kvs : List (Nat × J))
deriving Repr, Inhabited

abbrev KVs := List (Nat × J)

def lookup (k : Nat) : KVs → Option J
  | [] => none
  | (k', v) :: r => if k = k' then some v else if k < k' then none else lookup k r

def put (k : Nat) (v : J) : KVs → KVs
  | [] => [(k, v)]
  | (k', v') :: r =>
    if k = k' then (k, v) :: r else if k < k' then (k, v) :: (k', v') :: r else (k', v') :: put k v r

/-- Go: `m[k]` of a missing key is nil -/
def lookupD (k : Nat) (l : KVs) : J := (lookup k l).getD .null

mutual
/-- `executorMergeValues` -/
def merge : J → J → J
  | .obj ex, .obj inc => .obj (mergeK ex inc)
  | .arr ex, .arr inc => if ex.length = inc.length then .arr (mergeL ex inc) else .arr inc
  | _, .null => .null
  | _, .leaf s => .leaf s
  | .null, .arr inc => .arr inc
  | .leaf _, .arr inc => .arr inc
  | .obj _, .arr inc => .arr inc
  | .null, .obj inc => .obj inc
  | .leaf _, .obj inc => .obj inc
  | .arr _, .obj inc => .obj inc
/-- `for key, value := range incoming { existing[key] = merge(existing[key], value) }` -/
def mergeK : KVs → KVs → KVs
  | ex, [] => ex
  | ex, (k, v) :: r => mergeK (put k (merge (lookupD k ex) v) ex) r
/-- element by element (only used at equal lengths) -/
def mergeL : List J → List J → List J
  | e :: es, i :: is => merge e i :: mergeL es is
  | _, _ => []
end

/-- a path element: the field and, for a list element, the index -/
structure Pt where
  key : Nat
  idx : Option Nat
deriving Repr, DecidableEq

/-- the end of `executorInsertObject`: the place reached must be an object; an object value is merged into it
    key by key, any other value is ignored -/
def finish : J → J → Option J
  | .obj kvs, .obj inc => some (.obj (mergeK kvs inc))
  | .obj kvs, _ => some (.obj kvs)
  | _, _ => none

/-- `executorExtractValue` at a list point: pad the list with `{}` up to index `i`, then continue in entry `i`
    (written as one recursion: entry `i` of the padded list is replaced by what `f` makes of it) -/
def updAt : List J → Nat → (J → Option J) → Option (List J)
  | [], 0, f => (f (.obj [])).map fun e => [e]
  | [], i + 1, f => (updAt [] i f).map fun r => .obj [] :: r
  | x :: xs, 0, f => (f x).map fun e => e :: xs
  | x :: xs, i + 1, f => (updAt xs i f).map fun r => x :: r

/-- what `executorExtractValue` finds or creates under a non-list point -/
def childOfCur : Option J → J
  | none => .obj []
  | some .null => .obj []
  | some c => c

def childOf (kvs : KVs) (f : Nat) : J := childOfCur (lookup f kvs)

def insertAt : J → List Pt → J → Option J
  | x, [], v => finish x v
  | .obj kvs, ⟨f, none⟩ :: rest, v =>
    (insertAt (childOf kvs f) rest v).map fun c => .obj (put f c kvs)
  | .obj kvs, ⟨f, some i⟩ :: rest, v =>
    match lookup f kvs with
    | none => (updAt [] i fun e => insertAt e rest v).map fun l => .obj (put f (.arr l) kvs)
    | some (.arr l0) => (updAt l0 i fun e => insertAt e rest v).map fun l => .obj (put f (.arr l) kvs)
    | some _ => none
  | _, _ :: _, _ => none

/-- the root step: the value must be an object and is merged into the (object) result -/
def insertRoot : J → J → Option J
  | .obj kvs, .obj inc => some (.obj (mergeK kvs inc))
  | _, _ => none

/-- one message of the collector: `none` once an insertion has failed -/
def apply (s : Option J) (path : List Pt) (v : J) : Option J :=
  s.bind fun x => if path.isEmpty then insertRoot x v else insertAt x path v

end Ins
