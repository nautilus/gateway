import GwModel.FindPtsPaths
import GwModel.InsertApply
/-! Updates at realised paths.  `insertAt` (and the scrubber's `Scr.deleteAt`) is the walk of
    `executorExtractValue` with something done at its end; `Ins.modAt` is that walk with the end as a parameter.
    `modAt_spec` says what one update does to the place it is aimed at and to the places parting from it at a list
    index, `fold_abstract` what a family of updates does in any order; the statements about stitching one step's
    follow-up answers, and a step followed by its dependents, are instances. -/
namespace Fp
open Ins

/-- **an update aimed at `p`**: if `p` leads to an object and `fin` accepts that object, the update succeeds, `p`
    then leads to what `fin` made of it, and every path that parts from `p` at a list index leads where it led -/
theorem modAt_spec (fin : J → Option J) : ∀ (p : List RPt) (x : J) (o : KVs) (y : J),
    walk x p = some (.obj o) → fin (.obj o) = some y →
    ∃ x', modAt fin x (p.map toPt) = some x' ∧ walk x' p = some y ∧ ∀ q, Parts p q → walk x' q = walk x q
  | [], x, o, y, h, hy => by
    cases h
    exact ⟨y, hy, rfl, fun q hq => by simp [Parts] at hq⟩
  | ⟨key, idx, id⟩ :: p, x, o, y, h, hy => by
    cases x with
    | null => simp [walk] at h
    | leaf s => simp [walk] at h
    | arr l => simp [walk] at h
    | obj k =>
      cases hl : lookup key k with
      | none => simp [walk, hl] at h
      | some v =>
        cases idx with
        | none =>
          have hw : walk v p = some (.obj o) := by simpa [walk, hl] using h
          obtain ⟨v', hm, hw', hfr⟩ := modAt_spec fin p v o y hw hy
          refine ⟨.obj (put key v' k), ?_, ?_, ?_⟩
          · simp [toPt, modAt, childOf, hl, walk_ne_null hw, hm]
          · simp [walk, lookup_put, hw']
          · rintro (_ | ⟨⟨k2, i2, d2⟩, q⟩) hq
            · simp [Parts] at hq
            · obtain ⟨hk, hq⟩ := hq
              cases hk
              cases i2 with
              | some j => exact hq.elim
              | none => simp [walk, lookup_put, hl, hfr q hq]
        | some i =>
          cases v with
          | null => simp [walk, hl] at h
          | leaf s => simp [walk, hl] at h
          | obj k' => simp [walk, hl] at h
          | arr l =>
            cases he : l[i]? with
            | none => simp [walk, hl, he] at h
            | some e =>
              have hw : walk e p = some (.obj o) := by simpa [walk, hl, he] using h
              obtain ⟨e', hm, hw', hfr⟩ := modAt_spec fin p e o y hw hy
              have hu := updAt_of_getElem (F := fun e => modAt fin e (p.map toPt)) he hm
              obtain ⟨hlt, hge⟩ := List.getElem?_eq_some_iff.1 he
              refine ⟨.obj (put key (.arr (l.set i e')) k), ?_, ?_, ?_⟩
              · simp [toPt, modAt, hl, hu]
              · simp [walk, lookup_put, hlt, hw']
              · rintro (_ | ⟨⟨k2, i2, d2⟩, q⟩) hq
                · simp [Parts] at hq
                · obtain ⟨hk, hq⟩ := hq
                  cases hk
                  cases i2 with
                  | none => exact hq.elim
                  | some j =>
                    by_cases e : i = j
                    · subst e
                      simp only [if_true] at hq
                      simp [walk, lookup_put, hl, hlt, hge, hfr q hq]
                    · simp [walk, lookup_put, hl, List.getElem?_set_ne e]

/-- **the payload lands in the object the path was computed from**: if following a realised path through the
    accumulated response reaches an object, inserting an object payload at that path succeeds, and following the
    same path afterwards reaches that object with the payload merged in -/
theorem insertAt_walk : ∀ (suf : List RPt) (x : J) (o inc : KVs), walk x suf = some (.obj o) →
    ∃ x', insertAt x (suf.map toPt) (.obj inc) = some x' ∧ walk x' suf = some (.obj (mergeK o inc))
  | suf, x, o, inc, h => by
    obtain ⟨x', hm, hw, _⟩ := modAt_spec (finish · (.obj inc)) suf x o _ h rfl
    exact ⟨x', by rw [insertAt_eq_modAt]; exact hm, hw⟩

/-- **frame**: inserting at one path leaves what another path, parting from it at a list index, leads to -/
theorem insertAt_frame (inc : KVs) : ∀ (p q : List RPt) (x : J) (op oq : KVs),
    walk x p = some (.obj op) → walk x q = some (.obj oq) → Parts p q →
    ∃ x', insertAt x (p.map toPt) (.obj inc) = some x' ∧ walk x' q = some (.obj oq)
  | p, q, x, op, oq, hp, hq, h => by
    obtain ⟨x', hm, _, hfr⟩ := modAt_spec (finish · (.obj inc)) p x op _ hp rfl
    exact ⟨x', by rw [insertAt_eq_modAt]; exact hm, by rw [hfr q h, hq]⟩

theorem sig_inj_of_nodup {paths : List (List RPt)} (h : (paths.map sig).Nodup) :
    ∀ p ∈ paths, ∀ q ∈ paths, sig p = sig q → p = q :=
  have h := List.pairwise_map.1 h
  List.Pairwise.forall_of_forall_of_flip (fun _ _ _ => rfl) (h.imp fun hne e => absurd e hne)
    (h.imp fun hne e => absurd e.symm hne)

def modOne (fin : List RPt → J → Option J) (acc : Option J) (p : List RPt) : Option J :=
  acc.bind fun x => modAt (fin p) x (p.map toPt)

/-- **updates at a family of places that pairwise part at a list index, in any order**: if `fin p` turns every
    object `o` into the object `eff p o`, every update succeeds, each updated place holds `eff` of what it held, and
    every other place of the family is untouched -/
theorem fold_abstract (paths : List (List RPt)) (hsigs : (paths.map sig).Nodup)
    (hparts : ∀ p ∈ paths, ∀ q ∈ paths, sig p ≠ sig q → Parts p q)
    (fin : List RPt → J → Option J) (eff : List RPt → KVs → KVs)
    (hfin : ∀ p o, fin p (.obj o) = some (.obj (eff p o))) :
    ∀ (l : List (List RPt)) (x : J), (∀ p ∈ l, p ∈ paths) → (l.map sig).Nodup →
      (∀ q ∈ paths, ∃ o, walk x q = some (.obj o)) →
      ∃ final, l.foldl (modOne fin) (some x) = some final ∧
        (∀ q ∈ paths, ∃ o, walk final q = some (.obj o)) ∧
        (∀ p ∈ l, ∀ o, walk x p = some (.obj o) → walk final p = some (.obj (eff p o))) ∧
        (∀ q ∈ paths, sig q ∉ l.map sig → walk final q = walk x q)
  | [], x, _, _, hx => ⟨x, rfl, hx, fun _ hp => (by cases hp), fun _ _ _ => rfl⟩
  | p :: l, x, hsub, hnd, hx => by
    have hpp := hsub p (List.mem_cons_self ..)
    obtain ⟨op, hwp⟩ := hx p hpp
    obtain ⟨x1, hm, hw1, hfr⟩ := modAt_spec (fin p) p x op _ hwp (hfin p op)
    have frame : ∀ q ∈ paths, sig q ≠ sig p → walk x1 q = walk x q :=
      fun q hq hne => hfr q (hparts p hpp q hq (Ne.symm hne))
    have hx1 : ∀ q ∈ paths, ∃ o, walk x1 q = some (.obj o) := by
      intro q hq
      by_cases e : sig q = sig p
      · cases sig_inj_of_nodup hsigs q hq p hpp e; exact ⟨_, hw1⟩
      · rw [frame q hq e]; exact hx q hq
    obtain ⟨hpl, hnd⟩ := List.nodup_cons.1 hnd
    obtain ⟨final, hfold, hfin', hmine, hrest⟩ :=
      fold_abstract paths hsigs hparts fin eff hfin l x1 (fun q hq => hsub q (List.mem_cons_of_mem _ hq)) hnd hx1
    refine ⟨final, by simpa [modOne, hm] using hfold, hfin', ?_, ?_⟩
    · intro q hq o hwq
      rcases List.mem_cons.1 hq with rfl | hq
      · rw [hwp] at hwq; cases hwq
        rw [hrest q hpp hpl, hw1]
      · have hne : sig q ≠ sig p := fun e => hpl (e ▸ List.mem_map.2 ⟨q, hq, rfl⟩)
        exact hmine q hq o (by rw [frame q (hsub q (List.mem_cons_of_mem _ hq)) hne]; exact hwq)
    · intro q hq hnot
      simp only [List.map_cons, List.mem_cons, not_or] at hnot
      rw [hrest q hq hnot.2, frame q hq hnot.1]

/-- one collector step for the follow-up answer fetched for the object at `p` -/
def stitchOne (payload : List RPt → KVs) (acc : Option J) (p : List RPt) : Option J :=
  acc.bind fun x => insertAt x (p.map toPt) (.obj (payload p))

theorem stitchOne_eq (payload : List RPt → KVs) :
    stitchOne payload = modOne fun p x => finish x (.obj (payload p)) := by
  funext acc p; simp only [stitchOne, modOne, insertAt_eq_modAt]

/-- stitching at a family of places that pairwise part at a list index, in any order: every insertion succeeds, each
    stitched place holds its own payload merged into what it held, every other place of the family is untouched -/
theorem stitch_abstract (paths : List (List RPt)) (hsigs : (paths.map sig).Nodup)
    (hparts : ∀ p ∈ paths, ∀ q ∈ paths, sig p ≠ sig q → Parts p q) (payload : List RPt → KVs) :
    ∀ (l : List (List RPt)) (x : J), (∀ p ∈ l, p ∈ paths) → (l.map sig).Nodup →
      (∀ q ∈ paths, ∃ o, walk x q = some (.obj o)) →
      ∃ final, l.foldl (stitchOne payload) (some x) = some final ∧
        (∀ q ∈ paths, ∃ o, walk final q = some (.obj o)) ∧
        (∀ p ∈ l, ∀ o, walk x p = some (.obj o) → walk final p = some (.obj (mergeK o (payload p)))) ∧
        (∀ q ∈ paths, sig q ∉ l.map sig → walk final q = walk x q)
  | l, x, hsub, hnd, hx => by
    rw [stitchOne_eq]
    exact fold_abstract paths hsigs hparts _ (fun p o => mergeK o (payload p)) (fun _ _ => rfl) l x hsub hnd hx

/-- **one dependent step, stitched in any order.**  Let `paths` be the places `executorFindInsertionPoints` realises
    for a dependent step in a reply with the promised kinds, and `payload p` what the follow-up call for the object
    at `p` returns.  Stitch the answers for any sub-list `l` of the places, in any order, each once.  Then every
    insertion succeeds; the object at each stitched place holds exactly its own payload merged into what it held
    before; and every other place is untouched.  In particular the result does not depend on the order of `l`. -/
theorem step_stitch (infos : List PInfo) (chunk : KVs) (paths : List (List RPt))
    (hfind : findPts infos chunk [] = .ok paths) (payload : List RPt → KVs) :
    ∀ (l : List (List RPt)) (x : J), (∀ p ∈ l, p ∈ paths) → (l.map sig).Nodup →
      (∀ q ∈ paths, ∃ o, walk x q = some (.obj o)) →
      ∃ final, l.foldl (stitchOne payload) (some x) = some final ∧
        (∀ q ∈ paths, ∃ o, walk final q = some (.obj o)) ∧
        (∀ p ∈ l, ∀ o, walk x p = some (.obj o) → walk final p = some (.obj (mergeK o (payload p)))) ∧
        (∀ q ∈ paths, sig q ∉ l.map sig → walk final q = walk x q)
  | l, x, hsub, hnd, hx =>
    stitch_abstract paths (findPts_nodup infos chunk [] paths hfind)
      (findPts_pairwise_parts infos chunk [] paths hfind) payload l x hsub hnd hx

/-- what a path finds below a payload it finds below the object the payload was merged into, as long as that
    object did not yet hold the key the path starts with -/
theorem walk_mergeK_fresh {o P : KVs} (hP : Sorted P) : ∀ (suf : List RPt) (a : RPt),
    lookup a.key o = none → walk (.obj (mergeK o P)) (a :: suf) = walk (.obj P) (a :: suf) := by
  intro suf a hfresh
  have : lookup a.key (mergeK o P) = lookup a.key P := by
    rw [lookup_mergeK a.key P o hP]
    cases hl : lookup a.key P with
    | none => simpa using hfresh
    | some w => simp [lookupD, hfresh, null_merge]
  obtain ⟨key, idx, id⟩ := a
  simp only at this
  simp only [walk, this]

/-- **the places computed from a step's own reply are the right places in the accumulated response**: a step's
    reply `P` is stitched at the step's insertion point `ip` (where the accumulated response holds an object that
    does not yet have the key a dependent's path starts with); a place `suf` found by walking `P` is then found,
    below `ip`, in the accumulated response — and leads to the same object -/
theorem child_path_valid_after_parent (acc : J) (ip suf : List RPt) (a : RPt) (o P o' : KVs) (hP : Sorted P)
    (hip : walk acc ip = some (.obj o)) (hfresh : lookup a.key o = none)
    (hw : walk (.obj P) (a :: suf) = some (.obj o')) :
    ∃ acc', insertAt acc (ip.map toPt) (.obj P) = some acc' ∧ walk acc' (ip ++ a :: suf) = some (.obj o') := by
  obtain ⟨acc', hins, hwalk⟩ := insertAt_walk ip acc o P hip
  refine ⟨acc', hins, ?_⟩
  rw [walk_append, hwalk]
  simp only [Option.bind_some]
  rw [walk_mergeK_fresh hP suf a hfresh, hw]

/-- **a step and the follow-ups of one of its dependents, in any order of the follow-ups.**  The step's reply `P` is
    stitched at its insertion point `ip`; the places of a dependent step are computed from `P` alone; the follow-up
    answers are then stitched below `ip` in any order.  Every insertion succeeds and each object that `P` delivered
    ends up with exactly its own follow-up answer. -/
theorem parent_then_children (acc : J) (ip : List RPt) (o P : KVs) (hPs : Sorted P)
    (hip : walk acc ip = some (.obj o)) (i0 : PInfo) (infos : List PInfo) (hfresh : lookup i0.key o = none)
    (paths : List (List RPt)) (hfind : findPts (i0 :: infos) P [] = .ok paths) (hc : Conf (i0 :: infos) P)
    (payload : List RPt → KVs) (l : List (List RPt)) (hsub : ∀ p ∈ l, p ∈ paths) (hnd : (l.map sig).Nodup) :
    ∃ acc' final, insertAt acc (ip.map toPt) (.obj P) = some acc' ∧
      (l.map (ip ++ ·)).foldl (stitchOne payload) (some acc') = some final ∧
      ∀ p ∈ l, ∃ o', walk (.obj P) p = some (.obj o') ∧
        walk final (ip ++ p) = some (.obj (mergeK o' (payload (ip ++ p)))) := by
  obtain ⟨acc', hins, _⟩ := insertAt_walk ip acc o P hip
  -- every place of the dependent is valid in the accumulated response
  have valid : ∀ p ∈ paths, ∃ o', walk (.obj P) p = some (.obj o') ∧ walk acc' (ip ++ p) = some (.obj o') := by
    intro p hp
    obtain ⟨suf, hsuf, hkeys, o', hw, _⟩ := findPts_good (i0 :: infos) P [] paths hfind hc p hp
    simp only [List.nil_append] at hsuf; subst hsuf
    cases p with
    | nil => simp at hkeys
    | cons a suf =>
      have hk : a.key = i0.key := by simpa using (List.cons.inj hkeys).1
      obtain ⟨acc'', hins'', hw''⟩ := child_path_valid_after_parent acc ip suf a o P o' hPs hip (hk ▸ hfresh) hw
      rw [hins] at hins''; cases hins''
      exact ⟨o', hw, hw''⟩
  let paths2 := paths.map (ip ++ ·)
  obtain ⟨hsigs2, hparts2⟩ := pairwise_parts_iff.1 (show paths2.Pairwise Parts from
    List.pairwise_map.2 ((findPts_pairwise _ _ _ _ hfind).imp (parts_same_prefix ip _ _)))
  have hx2 : ∀ q ∈ paths2, ∃ o, walk acc' q = some (.obj o) := by
    intro q hq
    obtain ⟨q0, hq0, rfl⟩ := List.mem_map.1 hq
    obtain ⟨o', _, hw⟩ := valid q0 hq0
    exact ⟨o', hw⟩
  have hsub2 : ∀ p ∈ l.map (ip ++ ·), p ∈ paths2 := by
    intro p hp
    obtain ⟨p0, hp0, rfl⟩ := List.mem_map.1 hp
    exact List.mem_map.2 ⟨p0, hsub p0 hp0, rfl⟩
  have hnd2 : ((l.map (ip ++ ·)).map sig).Nodup :=
    List.pairwise_map.2 (List.pairwise_map.2 ((List.pairwise_map.1 hnd).imp fun hne e =>
      hne (List.append_cancel_left ((sig_append ..).symm.trans (e.trans (sig_append ..))))))
  obtain ⟨final, hfold, _, hmine, _⟩ := stitch_abstract paths2 hsigs2 hparts2 payload (l.map (ip ++ ·)) acc' hsub2 hnd2 hx2
  refine ⟨acc', final, hins, hfold, ?_⟩
  intro p hp
  obtain ⟨o', hw, hwacc⟩ := valid p (hsub p hp)
  exact ⟨o', hw, hmine (ip ++ p) (List.mem_map.2 ⟨p, hp, rfl⟩) o' hwacc⟩

end Fp
