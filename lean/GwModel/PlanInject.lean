import GwModel.PlanNoFrag
/-! Where the planner adds the join `id` (C04, planner half; documents without named fragments): only at the
    insertion point of a follow-up step it kicks off from there.  Together with `Scrub.scrubPaths_exact` (the scrub
    table lists the insertion points of all follow-up steps where the client did not ask for `id`) this says that
    every `id` the planner adds is removed again.

    The model marks the field the planner adds by its empty type name (`idField`; the client's own `id` fields carry
    the type they were validated against), which the printed query does not show. -/
namespace Pl

/-- the planner's own `id` sits at the level reached by `p` (response keys of fields; inline fragments are transparent) -/
inductive InjectedAt : List Sel → List String → Prop
  | here {sels : List Sel} : idField ∈ sels → InjectedAt sels []
  | field {sels : List Sel} {a n g : String} {gv : List String} {d : List Dir} {t : String} {sub : List Sel} {p : List String} :
      Sel.field a n g gv d t sub ∈ sels → InjectedAt sub p → InjectedAt sels (a :: p)
  | inl {sels : List Sel} {c : String} {d : List Dir} {sub : List Sel} {p : List String} :
      Sel.inline c d sub ∈ sels → InjectedAt sub p → InjectedAt sels p

mutual
/-- no field of the selection carries the planner's mark (an empty type name on a field called `id`) -/
def unmarked : Sel → Bool
  | .field _ n _ _ _ t sub => !(n == "id" && t == "") && unmarkedL sub
  | .inline _ _ sub => unmarkedL sub
  | .spread _ _ => true
def unmarkedL : List Sel → Bool
  | [] => true
  | s :: ss => unmarked s && unmarkedL ss
end

theorem unmarkedL_iff : ∀ {l : List Sel}, unmarkedL l = true ↔ ∀ s ∈ l, unmarked s = true
  | [] => by simp [unmarkedL]
  | x :: l => by simp only [unmarkedL, Bool.and_eq_true, List.forall_mem_cons, unmarkedL_iff (l := l)]

theorem idField_marked : unmarked idField = false := by simp [idField, unmarked]

/-- a field the client wrote is not the planner's `id`, whatever is selected below it -/
theorem ne_idField_of_unmarked {a n g : String} {gv : List String} {d : List Dir} {t : String} {sub sub' : List Sel}
    (h : unmarked (.field a n g gv d t sub) = true) : Sel.field a n g gv d t sub' ≠ idField := by
  intro he
  simp only [idField, Sel.field.injEq] at he
  simp [unmarked, he.2.1, he.2.2.2.2.2.1] at h

/-- an unmarked selection holds no injected id anywhere -/
theorem not_injectedAt_of_unmarked : ∀ {sels : List Sel} {p : List String}, InjectedAt sels p → unmarkedL sels = true → False := by
  intro sels p h
  induction h with
  | here hm => exact fun hu => by simpa [idField_marked] using unmarkedL_iff.1 hu _ hm
  | field hm _ ih =>
    exact fun hu => ih (show _ ∧ unmarkedL _ = true by simpa [unmarked] using unmarkedL_iff.1 hu _ hm).2
  | inl hm _ ih => exact fun hu => ih (show unmarkedL _ = true by simpa [unmarked] using unmarkedL_iff.1 hu _ hm)

theorem not_injectedAt_nil {p : List String} (h : InjectedAt [] p) : False := by
  cases h with
  | here hm => cases hm
  | field hm _ => cases hm
  | inl hm _ => cases hm

/-- an injected id is found through the head of the selection or through the rest -/
theorem injectedAt_cons {s : Sel} {ss : List Sel} {p : List String} (h : InjectedAt (s :: ss) p) :
    InjectedAt [s] p ∨ InjectedAt ss p := by
  cases h with
  | here hm => exact (List.mem_cons.1 hm).imp (fun h => .here (List.mem_singleton.2 h)) .here
  | field hm hs => exact (List.mem_cons.1 hm).imp (fun h => .field (List.mem_singleton.2 h) hs) (.field · hs)
  | inl hm hs => exact (List.mem_cons.1 hm).imp (fun h => .inl (List.mem_singleton.2 h) hs) (.inl · hs)

/-! the bundles of an unmarked selection are unmarked -/

theorem grouped_unmarked {env : Env} {pl : Loc} {T : String} {sf : List FragDef} {sels : List Sel} {l : Loc} {x : Sel}
    (hu : unmarkedL sels = true) (h : GroupedAt env pl T sf sels l x) : unmarked x = true := by
  cases h with
  | field hm _ => exact unmarkedL_iff.1 hu _ hm
  | spread hm _ _ => rfl
  | inline hm hp =>
    exact unmarkedL_iff.2 fun s hs => unmarkedL_iff.1 (by simpa [unmarked] using unmarkedL_iff.1 hu _ hm) s (hp.2 s hs).1

/-- what the planner goes through itself is the client's, or the `id` it has just added -/
theorem current_unmarked {env : Env} {cfg : Cfg} {lf : Buckets Sel} {lfr : Buckets FragDef}
    (hg : group env cfg.loc cfg.parentType cfg.stepFrags cfg.sel ([], []) = .ok (lf, lfr)) (hu : unmarkedL cfg.sel = true) :
    ∀ s ∈ current cfg lf, unmarked s = true ∨ s = idField := by
  intro s hs
  rcases List.mem_append.1 hs with hs | hs
  · exact Or.inl (grouped_unmarked hu ((group_grouped hg).get s hs))
  · split at hs
    · exact Or.inr (List.mem_singleton.1 hs)
    · cases hs

/-- a follow-up step of the step being built hangs at the (absolute) insertion point `x` -/
def KickedAt (step : Nat) (queue : List Payload) (x : List String) : Prop :=
  ∃ p ∈ queue, p.parent = some step ∧ p.ip = x

theorem kickedAt_addStep_old {step : Nat} {x : List String} {queue : List Payload} (p : Payload)
    (h : KickedAt step queue x) : KickedAt step (addStep queue p) x := by
  obtain ⟨p0, hm, hpar, hip⟩ := h
  rcases addStep_spec queue p with ⟨pre, o, post, rfl, _, h3⟩ | h
  · rw [h3]
    rcases List.mem_append.1 hm with hm | hm
    · exact ⟨p0, List.mem_append_left _ hm, hpar, hip⟩
    · rcases List.mem_cons.1 hm with rfl | hm
      · exact ⟨{ p0 with sel := _, frags := _ }, List.mem_append_right _ (List.mem_cons_self ..), hpar, hip⟩
      · exact ⟨p0, List.mem_append_right _ (List.mem_cons_of_mem _ hm), hpar, hip⟩
  · exact ⟨p0, h ▸ List.mem_append_left _ hm, hpar, hip⟩

theorem kickedAt_addStep_new (queue : List Payload) (p : Payload) (step : Nat) (h : p.parent = some step) :
    KickedAt step (addStep queue p) p.ip := by
  rcases addStep_spec queue p with ⟨pre, o, post, _, h2, h3⟩ | h'
  · simp only [samePlace, Bool.and_eq_true, beq_iff_eq] at h2
    exact ⟨{ o with sel := appendNew o.sel p.sel, frags := mergeFrags o.frags p.frags },
      h3 ▸ List.mem_append_right _ (List.mem_cons_self ..), h2.1.1.1.trans h, h2.2⟩
  · exact ⟨p, h' ▸ List.mem_append_right _ (List.mem_singleton.2 rfl), h, rfl⟩

/-- if something is bundled for another location, a follow-up step is kicked off at the current insertion point -/
theorem kickOff_kicks {cfg : Cfg} {lfr : Buckets FragDef} :
    ∀ (lf : Buckets Sel) (st st1 : St), kickOff cfg lfr lf st = .ok st1 →
      (∀ k x, KickedAt k st.queue x → KickedAt k st1.queue x) ∧
      (lf.any (fun p => p.1 != cfg.loc) = true → KickedAt cfg.step st1.queue cfg.ip) := by
  refine kickOff_induct (fun _ => ⟨fun _ _ h => h, fun h => (nomatch h)⟩) ?_ ?_
  · intro ss rest st st1 ⟨mono, kick⟩
    exact ⟨mono, fun h => kick (by simpa using h)⟩
  · intro l ss rest st st1 ss' fr' _ _ ⟨mono, _⟩
    exact ⟨fun k x hx => mono k x (kickedAt_addStep_old _ hx),
      fun _ => mono _ _ (kickedAt_addStep_new st.queue ⟨some cfg.step, l, cfg.parentType, cfg.ip, ss', fr'⟩ cfg.step rfl)⟩

def RecInject (rec : Cfg → St → Except Err (List Sel × St)) : Prop :=
  ∀ cfg st sel st', rec cfg st = .ok (sel, st') → noSpreadL cfg.sel = true → unmarkedL cfg.sel = true →
    (∀ k x, KickedAt k st.queue x → KickedAt k st'.queue x) ∧
    ∀ p, InjectedAt sel p → KickedAt cfg.step st'.queue (cfg.ip ++ p)

/-- **the planner adds the join `id` only where it kicks a follow-up step off**: every place of the returned
    selection that holds the planner's own `id` is, below the current insertion point, the insertion point of a
    pending step whose parent is the step being built -/
theorem extract_inject (env : Env) : ∀ (fuel : Nat), RecInject (extract env fuel) := by
  intro fuel cfg st sel st' h hns hu
  let M : Call := fun cfg st sel st' => (∀ k x, KickedAt k st.queue x → KickedAt k st'.queue x) ∧
    (noSpreadL cfg.sel = true → unmarkedL cfg.sel = true → ∀ p, InjectedAt sel p → KickedAt cfg.step st'.queue (cfg.ip ++ p))
  suffices key : M cfg st sel st' from ⟨key.1, key.2 hns hu⟩
  refine extract_induct (motive := M) ?_ fuel cfg st sel st' h
  clear h hns hu
  intro cfg st lf lfr st1 sel st' hg hk hp
  have trans : ∀ {a b c : List Payload}, (∀ k x, KickedAt k a x → KickedAt k b x) → (∀ k x, KickedAt k b x → KickedAt k c x) →
      ∀ k x, KickedAt k a x → KickedAt k c x := fun h1 h2 k x hx => h2 k x (h1 k x hx)
  have loopMono : ∀ {ss ss' st st'}, SelSteps M cfg (lfr.get cfg.loc) ss st ss' st' →
      ∀ k x, KickedAt k st.queue x → KickedAt k st'.queue x :=
    fun hp => hp.queue (Q := fun a b => ∀ k x, KickedAt k a x → KickedAt k b x) (fun _ _ _ h => h) trans (fun _ _ _ _ h _ _ _ => h.1)
  obtain ⟨kmono, kkick⟩ := kickOff_kicks lf st st1 hk
  refine ⟨trans kmono (loopMono hp), fun hns hu p hi => ?_⟩
  -- an id in what the loop returns was in what it went through, at this very level, or hangs where a step was kicked off
  have loop : ∀ p, InjectedAt sel p → (p = [] ∧ idField ∈ current cfg lf) ∨ KickedAt cfg.step st'.queue (cfg.ip ++ p) := by
    have hcn := current_noSpread hg hns
    have hcu := current_unmarked hg hu
    clear hk hg kmono kkick hi
    generalize current cfg lf = cur at hp hcn hcu
    induction hp with
    | nil => exact fun _ h => (not_injectedAt_nil h).elim
    | cons h1 h2 ih =>
      intro p hi
      rcases injectedAt_cons hi with hh | ht
      · have hsn := hcn _ (List.mem_cons_self ..)
        have hsu := hcu _ (List.mem_cons_self ..)
        suffices hd : (p = [] ∧ _ = idField) ∨ KickedAt cfg.step _ (cfg.ip ++ p) by
          rcases hd with ⟨e1, e2⟩ | hd
          · exact Or.inl ⟨e1, e2 ▸ List.mem_cons_self ..⟩
          · exact Or.inr (loopMono h2 _ _ hd)
        cases h1 with
        | leaf =>
          cases hh with
          | here hm => exact Or.inl ⟨rfl, (List.mem_singleton.1 hm).symm⟩
          | field hm hs => cases List.mem_singleton.1 hm; exact (not_injectedAt_nil hs).elim
          | inl hm _ => cases List.mem_singleton.1 hm
        | field hne hr =>
          have hsu : unmarked _ = true := hsu.resolve_right fun he => by cases he; exact hne rfl
          cases hh with
          | here hm => exact absurd (List.mem_singleton.1 hm).symm (ne_idField_of_unmarked hsu)
          | field hm hs =>
            cases List.mem_singleton.1 hm
            have := hr.2 hsn (show _ ∧ unmarkedL _ = true by simpa [unmarked] using hsu).2 _ hs
            rw [List.append_assoc] at this
            exact Or.inr this
          | inl hm _ => cases List.mem_singleton.1 hm
        | inline hr =>
          have hsu : unmarked _ = true := hsu.resolve_right fun he => nomatch he
          cases hh with
          | here hm => cases List.mem_singleton.1 hm
          | field hm _ => cases List.mem_singleton.1 hm
          | inl hm hs => cases List.mem_singleton.1 hm; exact Or.inr (hr.2 hsn (by simpa [unmarked] using hsu) _ hs)
        | spreadNew => cases hsn
        | spreadSame => cases hsn
        | spreadInline => cases hsn
      · exact (ih (fun s h => hcn s (List.mem_cons_of_mem _ h)) (fun s h => hcu s (List.mem_cons_of_mem _ h)) p ht).imp
          (fun h => ⟨h.1, List.mem_cons_of_mem _ h.2⟩) id
  rcases loop p hi with ⟨rfl, hm⟩ | hk'
  · -- the id at this very level: it was appended because another location got a bundle
    rw [List.append_nil]
    rcases List.mem_append.1 hm with hm | hm
    · have := grouped_unmarked hu ((group_grouped hg).get _ hm)
      rw [idField_marked] at this; cases this
    · split at hm
      · exact loopMono hp _ _ (kkick ‹_›)
      · cases hm
  · exact hk'

/-! ### pending steps stay free of the planner's mark (what they ask for is the client's) -/
def QueueUnmarked (queue : List Payload) : Prop := ∀ p ∈ queue, unmarkedL p.sel = true

theorem unmarkedL_nestIn : ∀ (ws inner : List Sel), unmarkedL (nestIn ws inner) = unmarkedL inner
  | [], _ => rfl
  | .inline c d s :: ws, inner => by simp only [nestIn, unmarkedL, unmarked, Bool.and_true, unmarkedL_nestIn ws inner]
  | .spread .. :: ws, inner => unmarkedL_nestIn ws inner
  | .field .. :: ws, inner => unmarkedL_nestIn ws inner

theorem appendNew_unmarked {source target : List Sel} (ht : unmarkedL target = true) (hs : unmarkedL source = true) :
    unmarkedL (appendNew target source) = true :=
  unmarkedL_iff.2 fun _ hx => (appendNew_mem hx).elim (unmarkedL_iff.1 ht _) (unmarkedL_iff.1 hs _)

def RecUnmarked (rec : Cfg → St → Except Err (List Sel × St)) : Prop :=
  ∀ cfg st sel st', rec cfg st = .ok (sel, st') → noSpreadL cfg.sel = true → unmarkedL cfg.sel = true →
    inlineOnly cfg.wrapper = true → QueueUnmarked st.queue → QueueUnmarked st'.queue

/-- the calls made for what the planner goes through itself get unmarked selections again -/
theorem calls_unmarked {env : Env} {cfg : Cfg} {lf : Buckets Sel} {lfr : Buckets FragDef} {s : Sel}
    (hu : unmarkedL cfg.sel = true) (hg : group env cfg.loc cfg.parentType cfg.stepFrags cfg.sel ([], []) = .ok (lf, lfr))
    (hs : s ∈ current cfg lf) : CallsIn (fun c => unmarkedL c.sel = true) cfg s := by
  have hsu := current_unmarked hg hu s hs
  refine ⟨fun a n g gv d t sub he hne => ?_, fun c d sub he => ?_⟩ <;> subst he
  · have hsu : unmarked _ = true := hsu.resolve_right fun he => by cases he; exact hne rfl
    exact (show _ ∧ unmarkedL sub = true by simpa [unmarked] using hsu).2
  · exact (by simpa [unmarked] using hsu.resolve_right fun he => nomatch he : unmarkedL sub = true)

theorem extract_unmarked (env : Env) : ∀ (fuel : Nat), RecUnmarked (extract env fuel) :=
  fun _ _ _ _ _ h hns hu hw hq => extract_forall_queue (C := fun c => unmarkedL c.sel = true) (X := fun p => unmarkedL p.sel = true)
    (fun _ hu hg hs => calls_unmarked hu hg hs)
    (fun _ hu hg hm _ => (unmarkedL_nestIn _ _).trans (unmarkedL_iff.2 fun s hs => grouped_unmarked hu (group_grouped hg _ _ hm s hs)))
    (fun _ _ ho hp _ => appendNew_unmarked ho hp) h ⟨hns, hw⟩ hu hq

/-! ### whole plans -/

/-- the work list: every id the planner has put into a built step is waited for by a pending step or was taken
    up by a built one, at exactly that place -/
structure InjectInv (queue : List Payload) (acc : List Step) : Prop where
  qns : QueueNoSpread queue
  qun : QueueUnmarked queue
  built : ∀ t ∈ acc, ∀ p, InjectedAt t.sel p →
    KickedAt t.id queue (t.ip ++ p) ∨ ∃ u ∈ acc, u.parent = some t.id ∧ u.ip = t.ip ++ p

/-- **Every `id` the planner adds sits where a follow-up step is inserted**: wherever a step's query holds the
    planner's own `id` (at the level reached by the response keys `p` below the step's insertion point), the plan
    has a step whose parent is that step and whose insertion point is exactly that place.  (Documents without named
    fragments; the client's own `id` fields carry their type and are never marked.) -/
theorem planOperation_injected_ids_are_join_points {env : Env} {fuel : Nat} {operation : String} {sels : List Sel}
    {steps : List Step} (hns : noSpreadL sels = true) (hu : unmarkedL sels = true)
    (h : planOperation env fuel operation sels = .ok steps) :
    ∀ t ∈ steps, ∀ p, InjectedAt t.sel p → ∃ u ∈ steps, u.parent = some t.id ∧ u.ip = t.ip ++ p := by
  have ⟨_, hi⟩ := buildSteps_induct (motive := fun _ queue acc => InjectInv queue acc) ?_ _ _ _ _ _ h
    ⟨fun p hp => by rw [List.mem_singleton.1 hp]; exact hns, fun p hp => by rw [List.mem_singleton.1 hp]; exact hu,
      fun _ ht => (nomatch ht)⟩
  · exact fun t ht p hp => (hi.built t ht p hp).resolve_left fun ⟨_, hm, _⟩ => (nomatch hm)
  intro next p0 queue acc sel st hi he
  have hp := hi.qns p0 (List.mem_cons_self ..)
  have hpu := hi.qun p0 (List.mem_cons_self ..)
  obtain ⟨hmono, hinj⟩ := extract_inject env fuel _ _ _ _ he hp hpu
  refine ⟨extract_noSpread he hp rfl fun o ho => hi.qns o (List.mem_cons_of_mem _ ho),
    extract_unmarked env fuel _ _ _ _ he hp hpu rfl fun o ho => hi.qun o (List.mem_cons_of_mem _ ho), fun t ht p hpi => ?_⟩
  rcases List.mem_append.1 ht with ht | ht
  · rcases hi.built t ht p hpi with ⟨q, hm, hpar, hip⟩ | ⟨u, hu, h1, h2⟩
    · rcases List.mem_cons.1 hm with rfl | hm
      · -- the pending step that waited for it is the one just built
        exact Or.inr ⟨_, List.mem_append_right _ (List.mem_singleton.2 rfl), hpar, hip⟩
      · exact Or.inl (hmono _ _ ⟨q, hm, hpar, hip⟩)
    · exact Or.inr ⟨u, List.mem_append_left _ hu, h1, h2⟩
  · rw [List.mem_singleton.1 ht] at hpi ⊢
    exact Or.inl (hinj p hpi)

end Pl
