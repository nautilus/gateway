import GwModel.FindPtsBasic
/-! The executor's data path, sequentially (execute.go: `executeOneStep` + the collector's `executorInsertObject`,
    composed over a whole plan).

    `runTask` is one invocation of `executeStep` for a realised insertion point: the join id is taken from the last
    point, the service is asked (the reply is looked up in a table of recorded replies: the model does not know
    what services answer), a reply to a `node(id:)` query is stripped of its `node` wrapper (with the checks the
    code makes on it), the realised insertion points of every dependent step are searched in the step's OWN reply
    (`Fp.findPts`), the reply is stitched into the accumulated response at the task's insertion point
    (`Ins.apply`), and the dependents run.  The order is depth first; that every order allowed by the executor
    gives the same response is `Props.C05` (machine-level confluence + `Ins.insert_comm`).

    Tied to /repo by the L2.exec correspondence (harness `execcorr.go`): the real `ParallelExecutor.Execute`, run on
    a real plan with its queryers wrapped by recorders, must produce the response (before scrubbing) and the number
    of failed tasks that `run` computes from the same plan shape and the recorded replies. -/
namespace Xs
open Ins Fp

structure Reply where
  sid : Nat            -- the step asked
  id : String          -- the join id sent ("" for a root step)
  data : KVs           -- queryResult (an empty object when the service wrote nothing)
  err : Bool           -- queryErr != nil
deriving Repr

/-- a plan step as the executor sees it: `strip` = the step's parent type is not a root type; `nodeParent` = it is
    `Node`, or the step hangs off a step the gateway answers itself (an object no service vouched for); every dependent comes with the facts `findPts` needs about its insertion point below this step's own -/
inductive XStep where
  | mk (sid : Nat) (strip nodeParent : Bool) (kids : List (List PInfo × XStep))
deriving Repr

instance : Inhabited XStep := ⟨.mk 0 false false []⟩

structure St where
  acc : J
  failed : Nat         -- tasks that ended with an error (their own reply's, or a stitching error)
  calls : Nat          -- service calls made
  missing : Nat        -- calls for which the table holds no reply (a defect of the recording, not of the code)
deriving Repr

/-- Go's `%v` of the id value, as it is rendered into the point and sent as `$id` -/
abbrev IdText := J → String

def findReply (replies : List Reply) (sid : Nat) (id : String) : Option Reply :=
  replies.find? fun r => r.sid == sid && r.id == id

/-- the key `node` (interned second by the driver; `id` is key 0) -/
def nodeKey : Nat := 1

def isNull : Option J → Bool
  | some .null => true
  | _ => false

/-- the result `executeOneStep` hands to the collector and whether the step failed before looking for dependents:
    `none` = `return nil, nil, err` -/
def stripped (strip nodeParent : Bool) (r : Reply) : Option KVs :=
  if !strip then some r.data
  else
    let node := lookup nodeKey r.data
    if !r.err && (node.isNone || (isNull node && !nodeParent)) then none
    else
      match childOfCur node with
      | .obj kvs => some kvs
      | _ => none

/-- the dependents' realised insertion points, searched in the step's own reply; `none` = the search failed (the
    step's result is kept, no dependent runs, the task counts as failed) -/
def dependents (kids : List (List PInfo × XStep)) (result : KVs) (ip : List RPt) : Option (List (List RPt × XStep)) :=
  match kids with
  | [] => some []
  | (infos, k) :: rest =>
    match findPts infos result ip with
    | .error _ => none
    | .ok paths =>
      match dependents rest result ip with
      | none => none
      | some more => some (paths.map (fun p => (p, k)) ++ more)

/-- stitch a task's result at its insertion point; a failed stitch leaves the response as it is and fails the task -/
def stitch (st : St) (ip : List RPt) (v : KVs) (failedAlready : Bool) : St :=
  match Ins.apply (some st.acc) (ip.map toPt) (.obj v) with
  | some acc' => { st with acc := acc', failed := st.failed + (if failedAlready then 1 else 0) }
  | none => { st with failed := st.failed + 1 }

def stepKids : XStep → List (List PInfo × XStep)
  | .mk _ _ _ kids => kids

/-- one task and everything below it (fuel: the depth of the plan tree; running out is counted in `missing`) -/
def runTask (idText : IdText) (replies : List Reply) : Nat → XStep → List RPt → St → St
  | 0, _, _, st => { st with missing := st.missing + 1000000 }
  | fuel + 1, .mk sid strip nodeParent kids, ip, st =>
    -- the join id comes from the last point of the realised insertion point
    let idOf : Option String := match ip.getLast? with
      | none => some ""
      | some p => p.id.map idText
    match idOf with
    | none => stitch st ip [] true
    | some id =>
      if !ip.isEmpty && id == "" then stitch st ip [] true else
      match findReply replies sid id with
      | none => { st with missing := st.missing + 1 }
      | some r =>
        let st := { st with calls := st.calls + 1 }
        match stripped strip nodeParent r with
        | none => stitch st ip [] true
        | some result =>
          match dependents kids result ip with
          | none => stitch st ip result true
          | some deps =>
            -- the dependents, in the order they were found
            deps.foldl (fun st d => runTask idText replies fuel d.2 d.1 st) (stitch st ip result r.err)

/-- the steps hanging off the root step, each with an empty insertion point -/
def run (idText : IdText) (replies : List Reply) (fuel : Nat) (roots : List XStep) : St :=
  roots.foldl (fun st s => runTask idText replies fuel s [] st) { acc := .obj [], failed := 0, calls := 0, missing := 0 }

end Xs

/-! ### every failed call is counted, and nothing un-counts a failure (C07, data-path level) -/
namespace Xs
open Ins Fp

theorem stitch_failed_le (st : St) (ip : List RPt) (v : KVs) (b : Bool) : st.failed ≤ (stitch st ip v b).failed := by
  unfold stitch
  split <;> simp <;> split <;> omega

theorem stitch_failed_true (st : St) (ip : List RPt) (v : KVs) : st.failed + 1 ≤ (stitch st ip v true).failed := by
  unfold stitch
  split <;> simp

theorem foldl_failed_le {α : Type} (f : St → α → St) (hf : ∀ st a, st.failed ≤ (f st a).failed) :
    ∀ (l : List α) (st : St), st.failed ≤ (l.foldl f st).failed
  | [], st => Nat.le_refl _
  | a :: l, st => Nat.le_trans (hf st a) (foldl_failed_le f hf l (f st a))

/-- the count of failed tasks never goes down, whatever the replies -/
theorem runTask_failed_le (idText : IdText) (replies : List Reply) :
    ∀ (fuel : Nat) (s : XStep) (ip : List RPt) (st : St), st.failed ≤ (runTask idText replies fuel s ip st).failed
  | 0, _, _, _ => by simp [runTask]
  | fuel + 1, .mk sid strip nodeParent kids, ip, st => by
    simp only [runTask]
    split
    · exact stitch_failed_le _ _ _ _
    · split
      · exact stitch_failed_le _ _ _ _
      · split
        · simp
        · split
          · exact stitch_failed_le { st with calls := st.calls + 1 } _ _ _
          · split
            · exact stitch_failed_le { st with calls := st.calls + 1 } _ _ _
            · refine Nat.le_trans ?_
                (foldl_failed_le _ (fun st (d : List RPt × XStep) => runTask_failed_le idText replies fuel d.2 d.1 st) _ _)
              exact stitch_failed_le { st with calls := st.calls + 1 } _ _ _

/-- **a call that came back with an error is counted as a failed task**, whatever else it returned, whatever its
    dependents do afterwards -/
theorem failed_reply_is_counted (idText : IdText) (replies : List Reply) (fuel sid : Nat) (strip nodeParent : Bool)
    (kids : List (List PInfo × XStep)) (st : St) (r : Reply)
    (hr : findReply replies sid "" = some r) (herr : r.err = true) :
    st.failed + 1 ≤ (runTask idText replies (fuel + 1) (.mk sid strip nodeParent kids) [] st).failed := by
  simp only [runTask, List.getLast?_nil, List.isEmpty_nil, hr]
  simp only [Bool.not_true, Bool.false_and, Bool.false_eq_true, if_false]
  split
  · exact stitch_failed_true { st with calls := st.calls + 1 } _ _
  · split
    · exact stitch_failed_true { st with calls := st.calls + 1 } _ _
    · refine Nat.le_trans ?_ (foldl_failed_le _ (fun st (d : List RPt × XStep) => runTask_failed_le idText replies fuel d.2 d.1 st) _ _)
      rw [herr]; exact stitch_failed_true { st with calls := st.calls + 1 } _ _

end Xs
