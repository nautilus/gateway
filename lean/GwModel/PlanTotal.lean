import GwModel.PlanLemmas
/-! Planning can only fail for a reason that lies in its input (C08), and the variables a step uses are the
    variables it declares (C02).

    `extract_error_benign`: whatever the document, routing table, wrappers and fuel, `extractSelection` in the
    model never ends in one of the planner's *internal* failures ("Could not find definition for fragment" in
    `extractSelection`, "Could not find defn" in `wrapSelectionSet`, an index/nil panic): the only errors are
    a field without a location (`URLFor`), a spread of a fragment the document does not define, or the model's
    own fuel.  The first two cannot happen for a document that validates against the merged schema the routing
    table was computed from (every field of every type has a location, every spread a definition). -/
namespace Pl

/-! ### how the planner fails -/

/-- how a call of `extractSelection` fails, as a relation (`fun cfg st e => rec cfg st = .error e` for the function) -/
abbrev Fail := Cfg → St → Err → Prop

/-- the fields `groupSelectionSet` asks the chooser about, each with the type it is read against: its own fields, and
    the direct children of its inline fragments and of the fragments it spreads -/
inductive Asks (env : Env) (T : String) (sf : List FragDef) (sels : List Sel) : String → String → Prop
  | field {a n g gv d t s} : .field a n g gv d t s ∈ sels → Asks env T sf sels T n
  | inline {c d sub a n g gv dd t s} : .inline c d sub ∈ sels → .field a n g gv dd t s ∈ sub →
      Asks env T sf sels (if c == "" then T else c) n
  | spread {name dirs defn a n g gv dd t s} : .spread name dirs ∈ sels →
      (match findFrag sf name with | some d => some d | none => findFrag env.planFrags name) = some defn →
      .field a n g gv dd t s ∈ defn.sub → Asks env T sf sels defn.cond n

theorem Asks.mono {env : Env} {T : String} {sf : List FragDef} {a b : List Sel} {T' f : String}
    (h : Asks env T sf a T' f) (hab : ∀ s ∈ a, s ∈ b) : Asks env T sf b T' f := by
  cases h with
  | field h1 => exact .field (hab _ h1)
  | inline h1 h2 => exact .inline (hab _ h1) h2
  | spread h1 h2 h3 => exact .spread (hab _ h1) h2 h3

/-- the chooser fails for want of a routing entry, or with the panic on an empty entry -/
theorem locate_error_cases {env : Env} {pl : Loc} {T f : String} {e : Err} (h : locate env pl T f = .error e) :
    (urlFor env T f = none ∧ e = .noRoute T f) ∨ ∃ site, e = .crash site := by
  unfold locate at h
  split at h
  · rename_i hn; cases h; exact Or.inl ⟨hn, rfl⟩
  · split at h
    · cases h
    · cases h; exact Or.inr ⟨_, rfl⟩

theorem splitByLoc_error {env : Env} {pl : Loc} {T : String} {e : Err} :
    ∀ (sels : List Sel) (b : Buckets Sel), splitByLoc env pl T sels b = .error e →
      ∃ a n g gv d t s, .field a n g gv d t s ∈ sels ∧ locate env pl T n = .error e
  | [], b, h => by simp only [splitByLoc] at h; cases h
  | .field a n g gv d t s :: rest, b, h => by
    simp only [splitByLoc] at h
    split at h
    · rename_i e' he; cases h; exact ⟨a, n, g, gv, d, t, s, List.mem_cons_self .., he⟩
    · obtain ⟨a, n, g, gv, d, t, s, hm, he⟩ := splitByLoc_error rest _ h
      exact ⟨a, n, g, gv, d, t, s, List.mem_cons_of_mem _ hm, he⟩
  | .inline _ _ _ :: rest, b, h => by
    obtain ⟨a, n, g, gv, d, t, s, hm, he⟩ := splitByLoc_error rest _ h
    exact ⟨a, n, g, gv, d, t, s, List.mem_cons_of_mem _ hm, he⟩
  | .spread _ _ :: rest, b, h => by
    obtain ⟨a, n, g, gv, d, t, s, hm, he⟩ := splitByLoc_error rest _ h
    exact ⟨a, n, g, gv, d, t, s, List.mem_cons_of_mem _ hm, he⟩

/-- **`groupSelectionSet` fails** with the chooser's failure for a field it asks about, or for a spread of a fragment
    without a definition -/
theorem group_error {env : Env} {pl : Loc} {T : String} {sf : List FragDef} {e : Err} :
    ∀ (sels : List Sel) (acc : Buckets Sel × Buckets FragDef), group env pl T sf sels acc = .error e →
      (∃ T' f, Asks env T sf sels T' f ∧ locate env pl T' f = .error e) ∨
      ∃ name dirs, .spread name dirs ∈ sels ∧ e = .noFragment name
  | [], acc, h => by simp only [group] at h; cases h
  | x :: rest, (lf, lfr), h => by
    have tail : ∀ {acc}, group env pl T sf rest acc = .error e →
        (∃ T' f, Asks env T sf (x :: rest) T' f ∧ locate env pl T' f = .error e) ∨
        ∃ name dirs, .spread name dirs ∈ x :: rest ∧ e = .noFragment name := fun h =>
      (group_error rest _ h).imp (fun ⟨T', f, h1, h2⟩ => ⟨T', f, h1.mono fun _ h => List.mem_cons_of_mem _ h, h2⟩)
        (fun ⟨name, dirs, h1, h2⟩ => ⟨name, dirs, List.mem_cons_of_mem _ h1, h2⟩)
    cases x with
    | field a n g gv d t s =>
      simp only [group] at h
      split at h
      · rename_i e' he; cases h; exact Or.inl ⟨T, n, .field (List.mem_cons_self ..), he⟩
      · exact tail h
    | spread name dirs =>
      simp only [group] at h
      split at h
      · cases h; exact Or.inr ⟨name, dirs, List.mem_cons_self .., rfl⟩
      · rename_i defn hd
        split at h
        · rename_i e' he
          cases h
          obtain ⟨a, n, g, gv, d, t, s, hm, he⟩ := splitByLoc_error _ _ he
          exact Or.inl ⟨_, n, .spread (List.mem_cons_self ..) hd hm, he⟩
        · exact tail h
    | inline c d sub =>
      simp only [group] at h
      split at h
      · rename_i e' he
        cases h
        obtain ⟨a, n, g, gv, d, t, s, hm, he⟩ := splitByLoc_error _ _ he
        exact Or.inl ⟨_, n, .inline (List.mem_cons_self ..) hm, he⟩
      · exact tail h

/-! `wrapSelectionSet` cannot fail: the definitions it looks up are the ones it has just appended -/
def fragNames (defs : List FragDef) : List String := defs.map (·.name)

theorem setFirst_some {name : String} {sub : List Sel} :
    ∀ {defs : List FragDef}, name ∈ fragNames defs → ∃ defs', setFirst name sub defs = some defs' ∧ fragNames defs' = fragNames defs
  | [], h => by cases h
  | d :: ds, h => by
    simp only [setFirst]
    by_cases hd : d.name = name
    · simp [hd, fragNames]
    · have hb : (d.name == name) = false := by simpa using hd
      simp only [hb, Bool.false_eq_true, if_false]
      have : name ∈ fragNames ds := by
        simp only [fragNames, List.map_cons, List.mem_cons] at h
        rcases h with h | h
        · exact absurd h.symm hd
        · exact h
      obtain ⟨defs', h1, h2⟩ := setFirst_some (sub := sub) this
      exact ⟨d :: defs', by simp [h1], by simp [fragNames] at h2 ⊢; exact h2⟩

def wrapperSpreadsIn (names : List String) : List Sel → Prop
  | [] => True
  | .spread n _ :: ws => n ∈ names ∧ wrapperSpreadsIn names ws
  | _ :: ws => wrapperSpreadsIn names ws

theorem wrapNest_ok : ∀ (ws inner : List Sel) (defs : List FragDef), wrapperSpreadsIn (fragNames defs) ws →
    ∃ x defs', wrapNest ws inner defs = .ok (x, defs') ∧ fragNames defs' = fragNames defs
  | [], inner, defs, _ => ⟨inner, defs, rfl, rfl⟩
  | .inline c d s :: ws, inner, defs, h => by
    obtain ⟨x, defs', h1, h2⟩ := wrapNest_ok ws inner defs h
    exact ⟨[.inline c d x], defs', by simp [wrapNest, h1], h2⟩
  | .spread n d :: ws, inner, defs, h => by
    obtain ⟨x, defs', h1, h2⟩ := wrapNest_ok ws inner defs h.2
    obtain ⟨defs'', h3, h4⟩ := setFirst_some (sub := x) (show n ∈ fragNames defs' by rw [h2]; exact h.1)
    exact ⟨[.spread n d], defs'', by simp [wrapNest, h1, h3], h4.trans h2⟩
  | .field a n g gv d t s :: ws, inner, defs, h => by
    obtain ⟨x, defs', h1, h2⟩ := wrapNest_ok ws inner defs h
    exact ⟨x, defs', by simp [wrapNest, h1], h2⟩

theorem wrapperSpreadsIn_mono {a b : List String} (hab : ∀ x ∈ a, x ∈ b) :
    ∀ (ws : List Sel), wrapperSpreadsIn a ws → wrapperSpreadsIn b ws
  | [], _ => trivial
  | .spread n _ :: ws, h => ⟨hab _ h.1, wrapperSpreadsIn_mono hab ws h.2⟩
  | .inline .. :: ws, h => wrapperSpreadsIn_mono hab ws h
  | .field .. :: ws, h => wrapperSpreadsIn_mono hab ws h

theorem wrapperSpreadsIn_wrapDefs (T : String) : ∀ (ws : List Sel), wrapperSpreadsIn (fragNames (wrapDefs T ws)) ws
  | [] => trivial
  | .spread n d :: ws => by
    refine ⟨by simp [wrapDefs, fragNames], ?_⟩
    exact wrapperSpreadsIn_mono (by intro x hx; simp only [wrapDefs, fragNames, List.map_cons, List.mem_cons]; exact Or.inr hx) ws
      (wrapperSpreadsIn_wrapDefs T ws)
  | .inline .. :: ws => wrapperSpreadsIn_wrapDefs T ws
  | .field .. :: ws => wrapperSpreadsIn_wrapDefs T ws

theorem wrap_ok (wrapper : List Sel) (T : String) (defs : List FragDef) (inner : List Sel) :
    ∃ r, wrap wrapper T defs inner = .ok r := by
  have h : wrapperSpreadsIn (fragNames (defs ++ wrapDefs T wrapper)) wrapper :=
    wrapperSpreadsIn_mono (by intro x hx; simp only [fragNames, List.map_append, List.mem_append]; exact Or.inr hx) wrapper
      (wrapperSpreadsIn_wrapDefs T wrapper)
  obtain ⟨x, defs', h1, _⟩ := wrapNest_ok wrapper inner _ h
  exact ⟨(x, defs'), h1⟩

/-- `kickOff` cannot fail -/
theorem kickOff_ok (cfg : Cfg) (lfr : Buckets FragDef) : ∀ (lf : Buckets Sel) (st : St), ∃ st1, kickOff cfg lfr lf st = .ok st1
  | [], st => ⟨st, rfl⟩
  | (location, ss) :: rest, st => by
    simp only [kickOff]
    split
    · exact kickOff_ok cfg lfr rest st
    · split
      · rename_i e he
        split at he
        · cases he
        · obtain ⟨r, hr⟩ := wrap_ok cfg.wrapper cfg.parentType (lfr.get location) ss
          rw [hr] at he; cases he
      · exact kickOff_ok cfg lfr rest _

/-- how one iteration of the loop over the current selections fails, given how its recursive call does -/
inductive SelFails (R : Fail) (cfg : Cfg) (localFrags : List FragDef) : Sel → St → Err → Prop
  | noLocal {name dirs st} : findFrag localFrags name = none →
      SelFails R cfg localFrags (.spread name dirs) st (.noLocalFragment name)
  | field {a n g gv d t sub st e} : sub ≠ [] →
      R (cfg.below a d t sub) st e →
      SelFails R cfg localFrags (.field a n g gv d t sub) st e
  | inline {c d sub st e} :
      R (cfg.inside c d sub) { st with vars := st.vars ++ dirVars d } e →
      SelFails R cfg localFrags (.inline c d sub) st e
  | spread {name dirs defn st e} : findFrag localFrags name = some defn →
      R (cfg.spreading name dirs defn) { st with vars := st.vars ++ dirVars dirs } e →
      SelFails R cfg localFrags (.spread name dirs) st e

theorem processSel_error {rec : Cfg → St → Except Err (List Sel × St)} {cfg : Cfg} {localFrags : List FragDef}
    {s : Sel} {st : St} {e : Err} (h : processSel rec cfg localFrags s st = .error e) :
    SelFails (fun c st e => rec c st = .error e) cfg localFrags s st e := by
  cases s with
  | field a n g gv d t sub =>
    simp only [processSel] at h
    split at h
    · cases h
    · rename_i hsub
      split at h
      · rename_i e' he; cases h; exact .field (by simpa using hsub) he
      · cases h
  | spread name dirs =>
    simp only [processSel] at h
    split at h
    · rename_i hn; cases h; exact .noLocal hn
    · rename_i defn hd
      split at h
      · rename_i e' he; cases h; exact .spread hd he
      · split at h
        · cases h
        · split at h <;> cases h
  | inline c d sub =>
    simp only [processSel] at h
    split at h
    · rename_i e' he; cases h; exact .inline he
    · cases h

/-- the loop fails at the first selection that does, after going through those before it -/
theorem processSels_error {rec : Cfg → St → Except Err (List Sel × St)} {cfg : Cfg} {localFrags : List FragDef} {e : Err} :
    ∀ {ss : List Sel} {st : St}, processSels rec cfg localFrags ss st = .error e →
      ∃ pre s post pre' st1, ss = pre ++ s :: post ∧
        SelSteps (fun c st r st' => rec c st = .ok (r, st')) cfg localFrags pre st pre' st1 ∧
        SelFails (fun c st e => rec c st = .error e) cfg localFrags s st1 e
  | [], st, h => by simp only [processSels] at h; cases h
  | s :: ss, st, h => by
    simp only [processSels] at h
    split at h
    · rename_i e' he; cases h; exact ⟨[], s, ss, [], st, rfl, .nil, processSel_error he⟩
    · rename_i s1 st1 h1
      split at h
      · rename_i e' he
        cases h
        obtain ⟨pre, x, post, pre', st2, rfl, hp, hx⟩ := processSels_error he
        exact ⟨s :: pre, x, post, s1 :: pre', st2, rfl, .cons (processSel_ok h1) hp, hx⟩
      · cases h

/-- **induction over a failing call of `extractSelection`**: out of fuel; or the grouping fails; or, the grouping and
    the loop so far having gone through, a recursive call fails or a spread has no local definition -/
theorem extract_error_induct {env : Env} {motive : Nat → Fail} (fuel0 : ∀ cfg st, motive 0 cfg st .fuel)
    (group : ∀ n cfg st e, Pl.group env cfg.loc cfg.parentType cfg.stepFrags cfg.sel ([], []) = .error e → motive (n + 1) cfg st e)
    (sel : ∀ n cfg st lf lfr st1 pre s post pre' st2 e,
      Pl.group env cfg.loc cfg.parentType cfg.stepFrags cfg.sel ([], []) = .ok (lf, lfr) → kickOff cfg lfr lf st = .ok st1 →
      current cfg lf = pre ++ s :: post →
      SelSteps (fun c st r st' => extract env n c st = .ok (r, st')) cfg (lfr.get cfg.loc) pre st1 pre' st2 →
      SelFails (motive n) cfg (lfr.get cfg.loc) s st2 e → motive (n + 1) cfg st e) :
    ∀ (fuel : Nat) (cfg : Cfg) (st : St) (e : Err), extract env fuel cfg st = .error e → motive fuel cfg st e
  | 0, cfg, st, e, h => by simp only [extract] at h; cases h; exact fuel0 cfg st
  | n + 1, cfg, st, e, h => by
    simp only [extract] at h
    split at h
    · rename_i e' he; cases h; exact group n cfg st _ he
    · rename_i lf lfr hg
      split at h
      · rename_i e' he
        obtain ⟨st1, hk⟩ := kickOff_ok cfg lfr lf st
        rw [hk] at he; cases he
      · rename_i st1 hk
        obtain ⟨pre, s, post, pre', st2, hcur, hp, hs⟩ := processSels_error h
        refine sel n cfg st lf lfr st1 pre s post pre' st2 e hg hk hcur hp ?_
        cases hs with
        | noLocal h1 => exact .noLocal h1
        | field h1 h2 => exact .field h1 (extract_error_induct fuel0 group sel n _ _ _ h2)
        | inline h1 => exact .inline (extract_error_induct fuel0 group sel n _ _ _ h1)
        | spread h1 h2 => exact .spread h1 (extract_error_induct fuel0 group sel n _ _ _ h2)

/-! ### every spread bundled for a location has a definition bundled for that location -/

def SpreadsDefined (lf : Buckets Sel) (lfr : Buckets FragDef) : Prop :=
  ∀ l name dirs, Sel.spread name dirs ∈ lf.get l → (findFrag (lfr.get l) name).isSome = true

theorem spreadsDefined_add_other {lf : Buckets Sel} {lfr : Buckets FragDef} {l : Loc} {x : Sel}
    (h : SpreadsDefined lf lfr) (hx : ∀ n d, x ≠ .spread n d) : SpreadsDefined (lf.add l x) lfr := by
  intro l' name dirs hs
  rw [get_add] at hs
  split at hs
  · rcases List.mem_append.1 hs with hs | hs
    · exact h l' name dirs hs
    · exact absurd (List.mem_singleton.1 hs).symm (hx name dirs)
  · exact h l' name dirs hs

theorem spreadsDefined_add_spread {lf : Buckets Sel} {lfr : Buckets FragDef} {l : Loc} {name : String}
    {dirs : List Dir} {d : FragDef} (hd : d.name = name) (h : SpreadsDefined lf lfr) :
    SpreadsDefined (lf.add l (.spread name dirs)) (lfr.add l d) := by
  intro l' name' dirs' hs
  rw [get_add] at hs ⊢
  by_cases hl : l' = l
  · rw [if_pos hl] at hs ⊢
    simp only [findFrag, List.find?_append, Option.isSome_or, Bool.or_eq_true]
    rcases List.mem_append.1 hs with hs | hs
    · exact Or.inl (h l' name' dirs' hs)
    · cases List.mem_singleton.1 hs
      exact Or.inr (by simp [hd])
  · rw [if_neg hl] at hs ⊢
    exact h l' name' dirs' hs

theorem group_spreadsDefined {env : Env} {pl : Loc} {T : String} {sf : List FragDef} :
    ∀ (sels : List Sel) (acc res : Buckets Sel × Buckets FragDef),
      group env pl T sf sels acc = .ok res → SpreadsDefined acc.1 acc.2 → SpreadsDefined res.1 res.2 := by
  refine group_induct (fun _ ha => ha) ?_ ?_ ?_
  · exact fun _ _ _ _ _ _ _ _ _ _ _ _ _ ih ha => ih (spreadsDefined_add_other ha fun _ _ hc => nomatch hc)
  · exact fun _ _ _ acc _ _ fl _ _ ih ha => ih (foldl_invariant (J := fun (acc : Buckets Sel × Buckets FragDef) => SpreadsDefined acc.1 acc.2) fl acc ha
      fun _ _ _ h => spreadsDefined_add_spread rfl h)
  · exact fun _ _ _ _ lf lfr _ fl _ ih ha => ih (foldl_invariant (J := fun b => SpreadsDefined b lfr) fl lf ha
      fun _ _ _ h => spreadsDefined_add_other h fun _ _ hc => nomatch hc)

/-! ### only failures that lie in the input -/

/-- the failures that lie in the input (or in the model's fuel), as opposed to the planner's internal ones -/
def Benign : Err → Prop
  | .noRoute _ _ => True
  | .noFragment _ => True
  | .fuel => True
  | _ => False

theorem Benign.cases : ∀ {e : Err}, Benign e → (∃ t f, e = .noRoute t f) ∨ (∃ n, e = .noFragment n) ∨ e = .fuel
  | .noRoute t f, _ => .inl ⟨t, f, rfl⟩
  | .noFragment n, _ => .inr (.inl ⟨n, rfl⟩)
  | .fuel, _ => .inr (.inr rfl)
  | .noLocalFragment _, h | .noWrapDefn, h | .crash _, h => h.elim

/-- `RegisterURL` only ever appends: no entry of the routing table is an empty list -/
def RoutesNonempty (env : Env) : Prop := ∀ k v, env.routes.lookup k = some v → v ≠ []

theorem locate_error {env : Env} (hr : RoutesNonempty env) {pl : Loc} {T f : String} {e : Err}
    (h : locate env pl T f = .error e) : Benign e := by
  unfold locate at h
  split at h
  · cases h; trivial
  · rename_i possible hp
    split at h
    · cases h
    · rename_i hnone
      exfalso
      have hne : possible ≠ [] := hr _ _ hp
      obtain ⟨l, hl⟩ := Sel.choose_total (prio := Sel.prioOf Sel.spec.order env.configured pl env.internal) hne
      unfold Sel.selectLocation at hnone
      rw [hl] at hnone; cases hnone


def RecBenign (rec : Cfg → St → Except Err (List Sel × St)) : Prop :=
  ∀ cfg st e, rec cfg st = .error e → Benign e

/-- **`extractSelection` fails only for reasons that lie in its input.** -/
theorem extract_error_benign {env : Env} (hr : RoutesNonempty env) : ∀ (fuel : Nat), RecBenign (extract env fuel) := by
  refine fun fuel => extract_error_induct (motive := fun _ _ _ e => Benign e) (fun _ _ => trivial) ?_ ?_ fuel
  · intro n cfg st e h
    rcases group_error _ _ h with ⟨T', f, _, he⟩ | ⟨name, dirs, _, rfl⟩
    · exact locate_error hr he
    · trivial
  · intro n cfg st lf lfr st1 pre s post pre' st2 e hg _ hcur _ hs
    cases hs with
    | field _ h => exact h
    | inline h => exact h
    | spread _ h => exact h
    | noLocal hn =>
      -- a spread bundled for the current location has a definition there
      rename_i name dirs
      have hm : Sel.spread name dirs ∈ current cfg lf := hcur ▸ List.mem_append_right _ (List.mem_cons_self ..)
      rcases List.mem_append.1 hm with hm | hm
      · have := group_spreadsDefined cfg.sel ([], []) (lf, lfr) hg (fun _ _ _ hm => nomatch hm) _ name dirs hm
        rw [hn] at this; cases this
      · split at hm
        · cases List.mem_singleton.1 hm
        · cases hm

/-- **Planning an operation fails only for a field without a location or a spread without a definition** (or
    for lack of fuel in the model): never with one of the planner's internal errors, never with a panic. -/
theorem planOperation_error_benign {env : Env} (hr : RoutesNonempty env) {fuel : Nat} {operation : String}
    {sels : List Sel} {e : Err} (h : planOperation env fuel operation sels = .error e) : Benign e := by
  rcases buildSteps_error (motive := fun _ _ _ => True) (fun _ _ _ _ _ _ _ _ => trivial) _ _ _ _ h trivial with
    rfl | ⟨next, p, queue, _, _, he⟩
  · trivial
  · exact extract_error_benign hr fuel _ _ _ he

end Pl
