/-! Model of the routing table (gateway.go fieldURLs / FieldURLMap / New): for every `Type.field` the list of
    services that declare it, in service order; introspection types and fields are never routed to a
    service; the gateway's own schema (Node / node / custom query fields) is appended unstripped, and `id`
    of every gateway field's type is answerable by the gateway. -/
namespace Route

structure Src where
  url : String
  types : List (String × List String)     -- type name ↦ declared field names
deriving Repr

def declares (s : Src) (t f : String) : Bool :=
  match s.types.lookup t with
  | some fs => f == "__typename" || fs.contains f
  | none => false

def dunder (s : String) : Bool := ['_', '_'].isPrefixOf s.toList

def isIntrospection (t f : String) : Bool :=
  dunder t || (t == "Query" && dunder f && f != "__typename")

/-- services offering `t.f` (in service order), then the gateway if its own schema declares it, then the
    gateway again for `id` of the types its query fields return -/
def urlsFor (srcs : List Src) (internal : Src) (gwTypes : List String) (t f : String) : List String :=
  ((srcs.filter fun s => declares s t f && !isIntrospection t f).map (·.url)) ++
  (if declares internal t f then [internal.url] else []) ++
  ((gwTypes.filter fun g => g == t && f == "id").map fun _ => internal.url)

/-- a service that declares a field (other than introspection) is listed for it -/
theorem mem_urlsFor_of_declares {srcs : List Src} (internal : Src) (gwTypes : List String) {t f : String} {s : Src}
    (hs : s ∈ srcs) (hd : declares s t f = true) (hi : isIntrospection t f = false) :
    s.url ∈ urlsFor srcs internal gwTypes t f := by
  unfold urlsFor
  simp only [List.mem_append, List.mem_map, List.mem_filter, Bool.and_eq_true, Bool.not_eq_true']
  exact Or.inl (Or.inl ⟨s, ⟨hs, hd, hi⟩, rfl⟩)

theorem service_routed_iff (srcs : List Src) (internal : Src) (gwTypes : List String) (t f loc : String)
    (hloc : loc ≠ internal.url) :
    loc ∈ urlsFor srcs internal gwTypes t f ↔
      ∃ s ∈ srcs, s.url = loc ∧ declares s t f = true ∧ isIntrospection t f = false := by
  constructor
  · unfold urlsFor
    simp only [List.mem_append, List.mem_map, List.mem_filter, Bool.and_eq_true, Bool.not_eq_true']
    rintro ((⟨s, ⟨hs, hd, hi⟩, rfl⟩ | h) | ⟨g, _, h⟩)
    · exact ⟨s, hs, rfl, hd, hi⟩
    · split at h
      · simp at h; exact absurd h hloc
      · cases h
    · exact absurd h.symm hloc
  · rintro ⟨s, hs, rfl, hd, hi⟩
    exact mem_urlsFor_of_declares internal gwTypes hs hd hi

/-- introspection is never routed to a service -/
theorem introspection_not_routed (srcs : List Src) (internal : Src) (gwTypes : List String) (t f loc : String)
    (hloc : loc ≠ internal.url) (hi : isIntrospection t f = true) : loc ∉ urlsFor srcs internal gwTypes t f := by
  intro h
  obtain ⟨_, _, _, _, hni⟩ := (service_routed_iff srcs internal gwTypes t f loc hloc).1 h
  rw [hi] at hni; cases hni

end Route
