import GwModel.PlanLemmas
/-! Shape of plans (C13): when the chooser keeps every field at the service that is already being asked, planning a
    step kicks off no further step — a query one service can answer is answered by one request to it. -/
namespace Pl

/-- asked from location `L`, the chooser keeps every field at `L` -/
def AllLocal (env : Env) (L : Loc) : Prop := ∀ T f l, locate env L T f = .ok l → l = L

def RecQuiet (L : Loc) (rec : Cfg → St → Except Err (List Sel × St)) : Prop :=
  ∀ cfg st sel st', rec cfg st = .ok (sel, st') → cfg.loc = L → st'.queue = st.queue

/-- **no step is kicked off while planning a step at a location the chooser never leaves** -/
theorem extract_quiet {env : Env} {L : Loc} (hl : AllLocal env L) : ∀ (fuel : Nat), RecQuiet L (extract env fuel) := by
  refine fun fuel => extract_induct (motive := fun cfg st _ st' => cfg.loc = L → st'.queue = st.queue) ?_ fuel
  intro cfg st lf lfr st1 sel st' hg hk hp hc
  -- every bundle is for `L`: a field goes where the chooser says, a fragment wherever one of its children goes
  have hpart : ∀ {T sub l ss}, PartAt env cfg.loc T sub l ss → l = cfg.loc := by
    intro T sub l ss ⟨hne, hs⟩
    obtain ⟨x, hx⟩ := List.exists_mem_of_ne_nil _ hne
    cases x with
    | field => exact (hl _ _ _ (hc ▸ (hs _ hx).2)).trans hc.symm
    | inline => exact (hs _ hx).2
    | spread => exact (hs _ hx).2
  have hlf : ∀ l ss, (l, ss) ∈ lf → l = cfg.loc := by
    intro l ss hm
    obtain ⟨x, hx⟩ := List.exists_mem_of_ne_nil _ (group_noEmpty hg l ss hm)
    cases group_grouped hg l ss hm x hx with
    | field _ h => exact (hl _ _ _ (hc ▸ h)).trans hc.symm
    | spread _ _ h => exact hpart h
    | inline _ h => exact hpart h
  rw [kickOff_local lf st hlf] at hk
  cases hk
  exact hp.queue (Q := fun a b => b = a) (fun _ => rfl) (fun h1 h2 => h2.trans h1) (fun _ _ _ _ h hloc _ _ => h (hloc.trans hc))

/-- what the root step kicks off when every root field is chosen at `L`: at most one payload, at `L` -/
def QueueAt (L : Loc) (q : List Payload) : Prop := q = [] ∨ ∃ p, q = [p] ∧ p.location = L ∧ p.parent = some 0 ∧ p.ip = []


/-! ### a follow-up step's insertion point lies below the insertion point of the step it hangs off -/

/-- `a` is a prefix of `b` -/
def IsPrefix (a b : List String) : Prop := ∃ t, b = a ++ t

/-- every pending step after a call is one that was pending before (same parent, same insertion point) or was
    kicked off by the step being built, at or below the insertion point the call was made for -/
def QueueBelow (step : Nat) (ip : List String) (before after : List Payload) : Prop :=
  ∀ p' ∈ after, (∃ o ∈ before, p'.parent = o.parent ∧ p'.ip = o.ip) ∨ (p'.parent = some step ∧ IsPrefix ip p'.ip)

theorem queueBelow_refl (step : Nat) (ip : List String) (q : List Payload) : QueueBelow step ip q q :=
  fun p' h => Or.inl ⟨p', h, rfl, rfl⟩

theorem queueBelow_trans {step : Nat} {ip : List String} {a b c : List Payload}
    (h1 : QueueBelow step ip a b) (h2 : QueueBelow step ip b c) : QueueBelow step ip a c := by
  intro p' hp
  rcases h2 p' hp with ⟨o, ho, he1, he2⟩ | he
  · rcases h1 o ho with ⟨o', ho', he1', he2'⟩ | ⟨he1', he2'⟩
    · exact Or.inl ⟨o', ho', he1.trans he1', he2.trans he2'⟩
    · exact Or.inr ⟨he1.trans he1', by rw [he2]; exact he2'⟩
  · exact Or.inr he

/-- `addStep` merges into an entry, keeping its parent and insertion point, or appends the new payload -/
theorem addStep_below (q : List Payload) (p : Payload) :
    ∀ p' ∈ addStep q p, (∃ o ∈ q, p'.parent = o.parent ∧ p'.ip = o.ip) ∨ (p'.parent = p.parent ∧ p'.ip = p.ip) := by
  induction q with
  | nil => intro p' h; rw [List.mem_singleton.1 h]; exact Or.inr ⟨rfl, rfl⟩
  | cons x xs ih =>
    intro p' h
    simp only [addStep] at h
    split at h
    · rcases List.mem_cons.1 h with rfl | h
      · exact Or.inl ⟨x, List.mem_cons_self .., rfl, rfl⟩
      · exact Or.inl ⟨p', List.mem_cons_of_mem _ h, rfl, rfl⟩
    · rcases List.mem_cons.1 h with rfl | h
      · exact Or.inl ⟨p', List.mem_cons_self .., rfl, rfl⟩
      · exact (ih p' h).imp (fun ⟨o, ho, he⟩ => ⟨o, List.mem_cons_of_mem _ ho, he⟩) id

theorem extract_below {env : Env} {fuel : Nat} {cfg : Cfg} {st : St} {sel : List Sel} {st' : St}
    (h : extract env fuel cfg st = .ok (sel, st')) : QueueBelow cfg.step cfg.ip st.queue st'.queue := by
  refine extract_induct (motive := fun cfg st _ st' => QueueBelow cfg.step cfg.ip st.queue st'.queue) ?_ fuel cfg st sel st' h
  intro cfg st lf lfr st1 sel st' _ hk hp
  refine queueBelow_trans (kickOff_queue (queueBelow_refl _ _) queueBelow_trans ?_ hk)
    (hp.queue (queueBelow_refl _ _) queueBelow_trans ?_)
  · intro q l ss fr _ p' hp'
    exact (addStep_below q _ p' hp').imp id fun ⟨h1, h2⟩ => ⟨h1, [], by rw [h2, List.append_nil]⟩
  · -- a call made for a deeper insertion point only adds steps below the shallower one as well
    intro c st r st' hc _ hstep ⟨t, hip⟩ p' hp'
    exact (hc p' hp').imp id fun ⟨h1, u, h2⟩ => ⟨hstep ▸ h1, t ++ u, by rw [h2, hip, List.append_assoc]⟩

/-! ### the work list -/

/-- the invariant of the work list: ids of built steps are below `next`; whoever is named as a parent, by a built
    step or a pending one, is a built step at a location the chooser does leave -/
structure WorkInv (env : Env) (next : Nat) (queue : List Payload) (acc : List Step) : Prop where
  ids : ∀ t ∈ acc, t.id < next
  pending : ∀ p ∈ queue, ∀ q, p.parent = some q → ∃ s ∈ acc, s.id = q ∧ ¬ AllLocal env s.location
  built : ∀ t ∈ acc, ∀ q, t.parent = some q → ∃ s ∈ acc, s.id = q ∧ ¬ AllLocal env s.location

/-- the work list: whoever is named as a parent is a built step whose insertion point is a prefix of the namer's -/
structure BelowInv (next : Nat) (queue : List Payload) (acc : List Step) : Prop where
  ids : ∀ t ∈ acc, t.id < next
  pending : ∀ p ∈ queue, ∀ q, p.parent = some q → ∃ s ∈ acc, s.id = q ∧ IsPrefix s.ip p.ip
  built : ∀ t ∈ acc, ∀ q, t.parent = some q → ∃ s ∈ acc, s.id = q ∧ IsPrefix s.ip t.ip

/-- the invariant of the work list, for any `Good` relating a built step to the insertion point of one that names it
    as its parent -/
structure ParentInv (Good : Step → List String → Prop) (next : Nat) (queue : List Payload) (acc : List Step) : Prop where
  ids : ∀ t ∈ acc, t.id < next
  pending : ∀ p ∈ queue, ∀ q, p.parent = some q → ∃ s ∈ acc, s.id = q ∧ Good s p.ip
  built : ∀ t ∈ acc, ∀ q, t.parent = some q → ∃ s ∈ acc, s.id = q ∧ Good s t.ip

/-- **Whoever a step of a plan names as its parent is a step of the plan**, and is `Good` for the namer's insertion point
    if every step is for the insertion points, below its own, of the steps it kicks off (no pending step names the step
    being built: it has no number yet). -/
theorem planOperation_parents {env : Env} {fuel : Nat} {Good : Step → List String → Prop}
    (hgood : ∀ next p queue sel st, extract env fuel (stepCfg next p) { vars := [], frags := [], queue := queue } = .ok (sel, st) →
      (∀ o ∈ queue, o.parent ≠ some next) → ∀ p' ∈ st.queue, p'.parent = some next → IsPrefix p.ip p'.ip →
        Good (builtStep next p sel st) p'.ip)
    {operation : String} {sels : List Sel} {steps : List Step} (h : planOperation env fuel operation sels = .ok steps) :
    ∀ t ∈ steps, ∀ q, t.parent = some q → ∃ s ∈ steps, s.id = q ∧ Good s t.ip := by
  have ⟨_, hm⟩ := buildSteps_induct (motive := ParentInv Good) ?_ _ _ _ _ _ h
    ⟨fun _ h => (nomatch h), fun p hp q hq => (by rw [List.mem_singleton.1 hp] at hq; cases hq), fun _ h => (nomatch h)⟩
  · exact hm.built
  intro next p queue acc sel st hi he
  have old : ∀ {q ip}, (∃ s ∈ acc, s.id = q ∧ Good s ip) → ∃ s ∈ acc ++ [builtStep next p sel st], s.id = q ∧ Good s ip :=
    fun ⟨s, hs, h⟩ => ⟨s, List.mem_append_left _ hs, h⟩
  have hnot : ∀ o ∈ queue, o.parent ≠ some next := fun o ho hpar =>
    have ⟨s, hs, hid, _⟩ := hi.pending o (List.mem_cons_of_mem _ ho) next hpar
    Nat.lt_irrefl _ (hid ▸ hi.ids s hs)
  refine ⟨fun t ht => ?_, fun p' hp' q hpq => ?_, fun t ht q htq => ?_⟩
  · rcases List.mem_append.1 ht with ht | ht
    · exact Nat.lt_succ_of_lt (hi.ids t ht)
    · rw [List.mem_singleton.1 ht]; exact Nat.lt_succ_self _
  · rcases extract_below he p' hp' with ⟨o, ho, he1, he2⟩ | ⟨he1, he2⟩
    · exact he2 ▸ old (hi.pending o (List.mem_cons_of_mem _ ho) q (he1 ▸ hpq))
    · cases he1.symm.trans hpq
      exact ⟨_, List.mem_append_right _ (List.mem_singleton.2 rfl), rfl, hgood next p queue sel st he hnot p' hp' he1 he2⟩
  · rcases List.mem_append.1 ht with ht | ht
    · exact old (hi.built t ht q htq)
    · rw [List.mem_singleton.1 ht] at htq ⊢
      exact old (hi.pending p (List.mem_cons_self ..) q htq)

/-- **No needless hop**: in every plan, the step a follow-up step hangs off is at a location the chooser leaves for
    some field; a step at a service that keeps everything it is asked (`AllLocal`) has no follow-up steps. -/
theorem planOperation_no_needless_hop {env : Env} {fuel : Nat} {operation : String} {sels : List Sel} {steps : List Step}
    (h : planOperation env fuel operation sels = .ok steps) :
    ∀ t ∈ steps, ∀ q, t.parent = some q → ∃ s ∈ steps, s.id = q ∧ ¬ AllLocal env s.location := by
  refine planOperation_parents (Good := fun s _ => ¬ AllLocal env s.location) ?_ h
  -- were nothing kicked off, the step found pending would have been pending before, naming a step not yet built
  intro next p queue sel st he hnot p' hp' hpar _ hloc
  rw [extract_quiet hloc fuel _ _ _ _ he rfl] at hp'
  exact hnot p' hp' hpar

/-- **Every follow-up step is inserted below the step it hangs off**: its insertion point extends its parent's
    (what the executor relies on when it searches the parent's own reply for the rest of the path). -/
theorem planOperation_ip_below {env : Env} {fuel : Nat} {operation : String} {sels : List Sel} {steps : List Step}
    (h : planOperation env fuel operation sels = .ok steps) :
    ∀ t ∈ steps, ∀ q, t.parent = some q → ∃ s ∈ steps, s.id = q ∧ IsPrefix s.ip t.ip :=
  planOperation_parents (Good := fun s ip => IsPrefix s.ip ip) (fun _ _ _ _ _ _ _ _ _ _ h => h) h

end Pl

namespace Pl

/-- when does the chooser never leave `L`: no priorities configured, and `L` offers every field of the routing table -/
theorem allLocal_of_offers_everything {env : Env} {L : Loc} (hp : env.configured = [])
    (hall : ∀ k possible, env.routes.lookup k = some possible → L ∈ possible) : AllLocal env L := by
  intro T f l h
  unfold locate at h
  split at h
  · cases h
  · rename_i possible hpos
    have hmem : L ∈ possible := hall _ _ hpos
    have : Sel.selectLocation Sel.spec possible env.configured L env.internal = some L := by
      unfold Sel.selectLocation
      show Sel.choose possible (Sel.prioOf [.configured, .parent, .internal] env.configured L env.internal) = some L
      rw [Sel.prioOf_safe, hp]
      exact Sel.choose_parent (configured := []) rfl hmem
    rw [this] at h
    cases h; rfl

end Pl
