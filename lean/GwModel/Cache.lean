/-! C12 prototype: automatic persisted-query cache as interleaved atomic steps; refinement to "no cache". -/
namespace PCache

abbrev Hash := String
abbrev Text := String
variable {Plan Err : Type}

structure Entry (Plan : Type) where
  hash : Hash
  plan : Plan
  lastUsed : Nat

inductive Resp (Plan Err : Type)
  | plan (p : Plan) | planErr (e : Err) | notFound

/-- one in-flight request -/
inductive Phase (Plan : Type)
  | start                       -- before `cache.Load`
  | missed                      -- Load missed; about to plan
  | planned (p : Plan)          -- planner returned; about to LoadOrStore

structure Req (Plan : Type) where
  query : Option Text
  hash  : Option Hash
  phase : Phase Plan

structure St (Plan Err : Type) where
  cache : List (Entry Plan)
  now : Nat
  lastRetrieval : Nat
  inflight : List (Req Plan)
  log : List (Req Plan × Resp Plan Err)      -- completed requests with their responses

def lookup (c : List (Entry Plan)) (h : Hash) : Option (Entry Plan) := c.find? (·.hash == h)
def touch (c : List (Entry Plan)) (h : Hash) (t : Nat) : List (Entry Plan) :=
  c.map fun e => if e.hash == h then { e with lastUsed := t } else e

variable (planOf : Text → Except Err Plan) (sha : Text → Hash) (ttl : Nat)

def keyOf (r : Req Plan) (q : Text) : Hash := match r.hash with | some h => if h = "" then sha q else h | none => sha q

/-- advance the i-th in-flight request by one atomic step -/
def stepReq (s : St Plan Err) (r : Req Plan) : (List (Entry Plan)) × Option (Req Plan) × Option (Resp Plan Err) :=
  match r.phase with
  | .start =>
    match lookup s.cache (r.hash.getD "") with
    | some e => (touch s.cache e.hash s.now, none, some (.plan e.plan))
    | none => (s.cache, some { r with phase := .missed }, none)
  | .missed =>
    match r.query with
    | none => (s.cache, none, some .notFound)
    | some q =>
      if q = "" then (s.cache, none, some .notFound) else
      match planOf q with
      | .error e => (s.cache, none, some (.planErr e))
      | .ok p => (s.cache, some { r with phase := .planned p }, none)
  | .planned p =>
    let k := keyOf sha r (r.query.getD "")
    match lookup s.cache k with
    | some _ => (touch s.cache k s.now, none, some (.plan p))
    | none => (⟨k, p, s.now⟩ :: s.cache, none, some (.plan p))

-- the text a hash stands for in this history
variable (textOf : Hash → Text)

def CacheOK (c : List (Entry Plan)) : Prop :=
  ∀ e ∈ c, e.hash ≠ "" ∧ planOf (textOf e.hash) = .ok e.plan

/-- a request is consistent with `textOf` -/
def ReqOK (r : Req Plan) : Prop :=
  (∀ h q, r.hash = some h → h ≠ "" → r.query = some q → q ≠ "" → textOf h = q) ∧
  (∀ q, r.query = some q → textOf (sha q) = q) ∧ (∀ q, sha q ≠ "") ∧
  (∀ p, r.phase = .planned p → ∃ q, r.query = some q ∧ q ≠ "" ∧ planOf q = .ok p)

/-- the response a cache-less gateway gives -/
def uncached (q : Text) : Resp Plan Err :=
  match planOf q with | .ok p => .plan p | .error e => .planErr e

def Sound (r : Req Plan) (x : Resp Plan Err) : Prop :=
  (x = .notFound ∧ (r.query = none ∨ r.query = some "")) ∨
  (∃ q, r.query = some q ∧ q ≠ "" ∧ x = uncached planOf q) ∨
  (∃ h, r.hash = some h ∧ h ≠ "" ∧ x = uncached planOf (textOf h))

/-- what `stepReq_sound` says of the outcome of a step of `r` -/
def StepOK (r : Req Plan) (t : List (Entry Plan) × Option (Req Plan) × Option (Resp Plan Err)) : Prop :=
  CacheOK planOf textOf t.1 ∧
  (∀ r'', t.2.1 = some r'' → ReqOK planOf sha textOf r'' ∧ r''.query = r.query ∧ r''.hash = r.hash) ∧
  (∀ x, t.2.2 = some x → Sound planOf textOf r x)

section
variable {planOf sha textOf}

theorem touch_ok {c : List (Entry Plan)} (h : CacheOK planOf textOf c) (k : Hash) (t : Nat) :
    CacheOK planOf textOf (touch c k t) := by
  intro e he
  obtain ⟨e0, he0, rfl⟩ := List.mem_map.1 he
  split
  · exact h e0 he0
  · exact h e0 he0

theorem uncached_ok {q : Text} {p : Plan} (h : planOf q = .ok p) : uncached planOf q = .plan p := by
  rw [uncached, h]

/-- a hit under `h` answers with the plan of the text `h` stands for -/
theorem hit_sound {c : List (Entry Plan)} (hc : CacheOK planOf textOf c) {h : Hash} {e : Entry Plan}
    (hl : lookup c h = some e) : e.hash = h ∧ h ≠ "" ∧ uncached planOf (textOf h) = .plan e.plan := by
  have hh : e.hash = h := by simpa using List.find?_some hl
  obtain ⟨h1, h2⟩ := hc e (List.mem_of_find?_eq_some hl)
  exact ⟨hh, hh ▸ h1, hh ▸ uncached_ok h2⟩

/-- the key a plan is stored under stands for the text that was planned -/
theorem keyOf_text {r : Req Plan} (hr : ReqOK planOf sha textOf r) {q : Text} (hq : r.query = some q) (hqe : q ≠ "") :
    keyOf sha r q ≠ "" ∧ textOf (keyOf sha r q) = q := by
  unfold keyOf
  split
  · rename_i h hrh
    split
    · exact ⟨hr.2.2.1 q, hr.2.1 q hq⟩
    · rename_i hhe; exact ⟨hhe, hr.1 h q hrh hhe hq hqe⟩
  · exact ⟨hr.2.2.1 q, hr.2.1 q hq⟩

/-- a step that answers -/
theorem StepOK.answer {r : Req Plan} {c : List (Entry Plan)} {x : Resp Plan Err} (hc : CacheOK planOf textOf c)
    (hx : Sound planOf textOf r x) : StepOK planOf sha textOf r (c, none, some x) :=
  ⟨hc, fun _ h => (nomatch h), fun _ h => by cases h; exact hx⟩

/-- a step that moves the request to its next phase -/
theorem StepOK.next {r : Req Plan} {c : List (Entry Plan)} {ph : Phase Plan} (hc : CacheOK planOf textOf c)
    (hr : ReqOK planOf sha textOf r) (hp : ∀ p, ph = .planned p → ∃ q, r.query = some q ∧ q ≠ "" ∧ planOf q = .ok p) :
    StepOK planOf sha textOf (Err := Err) r (c, some { r with phase := ph }, none) :=
  ⟨hc, fun _ h => (by cases h; exact ⟨⟨hr.1, hr.2.1, hr.2.2.1, hp⟩, rfl, rfl⟩), fun _ h => nomatch h⟩

theorem stepReq_ok (s : St Plan Err) (r : Req Plan)
    (hc : CacheOK planOf textOf s.cache) (hr : ReqOK planOf sha textOf r) :
    StepOK planOf sha textOf r (stepReq planOf sha s r) := by
  unfold stepReq
  split
  · -- Load: a hit is a hit under the client's hash, which then is not empty
    split
    · rename_i e hl
      obtain ⟨-, hne, hu⟩ := hit_sound hc hl
      refine .answer (touch_ok hc _ _) (Or.inr (Or.inr ?_))
      cases hrh : r.hash with
      | none => rw [hrh] at hne; exact absurd rfl hne
      | some h => rw [hrh] at hu hne; exact ⟨h, rfl, hne, hu.symm⟩
    · exact .next hc hr (fun _ h => nomatch h)
  · -- plan
    split
    · rename_i hq
      exact .answer hc (Or.inl ⟨rfl, Or.inl hq⟩)
    · rename_i q hq
      split
      · rename_i hqe
        exact .answer hc (Or.inl ⟨rfl, Or.inr (hqe ▸ hq)⟩)
      · rename_i hqe
        split
        · rename_i e hp
          exact .answer hc (Or.inr (Or.inl ⟨q, hq, hqe, by rw [uncached, hp]⟩))
        · rename_i p hp
          exact .next hc hr (fun p' h => by cases h; exact ⟨q, hq, hqe, hp⟩)
  · -- LoadOrStore: the plan in hand is the answer; a new entry goes under a key that stands for the text
    rename_i p hph
    obtain ⟨q, hq, hqe, hp⟩ := hr.2.2.2 p hph
    have hx : Sound planOf textOf r (.plan p) := Or.inr (Or.inl ⟨q, hq, hqe, (uncached_ok hp).symm⟩)
    simp only
    split
    · exact .answer (touch_ok hc _ _) hx
    · refine .answer (fun e he => ?_) hx
      rcases List.mem_cons.1 he with rfl | he
      · obtain ⟨h1, h2⟩ := keyOf_text hr hq hqe
        rw [hq]
        exact ⟨h1, by rw [Option.getD_some, h2]; exact hp⟩
      · exact hc e he

end

/-- **C12 (one atomic step, any interleaving).** The invariant is preserved and any response
    produced is the cache-less one for the hash's text, or NotFound for a hash-only miss. -/
theorem stepReq_sound (s : St Plan Err) (r : Req Plan)
    (hc : CacheOK planOf textOf s.cache) (hr : ReqOK planOf sha textOf r) :
    let (c', r', resp) := stepReq planOf sha s r
    CacheOK planOf textOf c' ∧
    (∀ r'', r' = some r'' → ReqOK planOf sha textOf r'' ∧ r''.query = r.query ∧ r''.hash = r.hash) ∧
    (∀ x, resp = some x →
      (x = .notFound ∧ (r.query = none ∨ r.query = some "")) ∨
      (∃ q, r.query = some q ∧ q ≠ "" ∧ x = uncached planOf q) ∨
      (∃ h, r.hash = some h ∧ h ≠ "" ∧ x = uncached planOf (textOf h))) :=
  stepReq_ok s r hc hr

#print axioms stepReq_sound

/-- GC: remove entries unused for longer than ttl; only enabled after a quiet period -/
def gc (c : List (Entry Plan)) (now : Nat) : List (Entry Plan) := c.filter fun e => decide (now ≤ e.lastUsed + ttl)

theorem gc_ok {c : List (Entry Plan)} (h : CacheOK planOf textOf c) (now : Nat) :
    CacheOK planOf textOf (gc ttl c now) := fun e he => h e (List.mem_filter.1 he).1

theorem gc_evicts_only_stale {c : List (Entry Plan)} {now : Nat} {e : Entry Plan}
    (he : e ∈ c) (hgone : e ∉ gc ttl c now) : e.lastUsed + ttl < now := by
  have : ¬ (now ≤ e.lastUsed + ttl) := fun h => hgone (List.mem_filter.2 ⟨he, by simpa using h⟩)
  omega

end PCache
