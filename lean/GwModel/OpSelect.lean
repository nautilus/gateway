import GwModel.FactTypes
import GwModel.FoldPairwise
/-! Model of plan selection in `Gateway.Execute` (gateway.go:59-80) and of "one plan per operation"
    (`generatePlans` + `generateScrubFields`, plan.go): used by C17. -/
namespace OpSelect

inductive Err | needName | notFound
deriving DecidableEq, Repr

/-- `QueryPlanList.ForOperation` -/
def forOperation {P : Type} (plans : List (String × P)) (name : String) : Except Err P :=
  match plans.find? (fun p => p.1 == name) with
  | some p => .ok p.2
  | none => .error .notFound

/-- plan selection as the source denotes it; `f` comes from gwfacts -/
def selectPlan {P : Type} (f : Facts.OpSelectFacts) (plans : List (String × P)) (name : String) : Except Err P :=
  match plans with
  | [p] => if f.singleUsesOnly then
             (if f.onlyIfNameMatches && !(name == "" || p.1 == name) then .error .notFound else .ok p.2)
           else forOperation plans name
  | _ =>
    if f.emptyNameRejected && name == "" then .error .needName
    else forOperation plans name

def FactsSafe (f : Facts.OpSelectFacts) : Prop :=
  f.singleUsesOnly = true ∧ f.emptyNameRejected = true ∧ f.selectsByName = true ∧ f.onlyIfNameMatches = true

instance (f : Facts.OpSelectFacts) : Decidable (FactsSafe f) := by unfold FactsSafe; exact inferInstance

/-- plan selection under safe facts: a lone operation is used when no name is given or the name is its own … -/
theorem selectPlan_single {P : Type} {f : Facts.OpSelectFacts} (h : FactsSafe f) (p : String × P) (name : String) :
    selectPlan f [p] name = if name = "" ∨ p.1 = name then .ok p.2 else .error .notFound := by
  simp only [selectPlan, h.1, h.2.2.2, if_true, Bool.true_and, Bool.not_eq_true', Bool.or_eq_false_iff,
    beq_eq_false_iff_ne, ne_eq, ← not_or, ite_not]

/-- … and among none or several a name is required and looked up -/
theorem selectPlan_many {P : Type} {f : Facts.OpSelectFacts} (h : FactsSafe f) {plans : List (String × P)}
    (hp : plans.length ≠ 1) (name : String) :
    selectPlan f plans name = if name = "" then .error .needName else forOperation plans name := by
  unfold selectPlan
  split
  · exact absurd rfl hp
  · simp only [h.2.1, Bool.true_and, beq_iff_eq]

/-- a document is planned operation by operation: the plan of an operation (its steps *and* its scrub
    table) is a function of that operation alone (with the document's fragments) -/
def planDoc {O P : Type} (nameOf : O → String) (planOp : O → P) (ops : List O) : List (String × P) :=
  ops.map fun o => (nameOf o, planOp o)

theorem forOperation_map {O P : Type} (nameOf : O → String) (planOp : O → P) (ops : List O) (o : O)
    (hm : o ∈ ops) (hnd : (ops.map nameOf).Nodup) :
    forOperation (planDoc nameOf planOp ops) (nameOf o) = .ok (planOp o) := by
  have hk : ((planDoc nameOf planOp ops).map (·.1)).Nodup := by rw [planDoc, List.map_map]; exact hnd
  rw [forOperation, (List.find?_key_eq_some_iff hk).2
    ⟨List.mem_map_of_mem (f := fun o => (nameOf o, planOp o)) hm, rfl⟩]

theorem forOperation_unknown {P : Type} (plans : List (String × P)) (name : String)
    (h : ∀ p ∈ plans, p.1 ≠ name) : forOperation plans name = .error .notFound := by
  unfold forOperation
  have : plans.find? (fun p => p.1 == name) = none := by
    apply List.find?_eq_none.2
    intro p hp; simpa using h p hp
  rw [this]

end OpSelect
