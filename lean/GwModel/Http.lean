/-! Model of the JSON request path of `GraphQLHandler` (http.go): decoding a body into operations the way
    `encoding/json` fills `*HTTPOperation` (case-insensitive keys, `null` leaves the zero value, a wrong JSON
    type is an error, `null` for an operation is a nil pointer and is rejected), then the handler's
    per-operation decisions and the status code.  Planning and execution are parameters. -/
namespace Http

inductive JV where
  | null | bool (b : Bool) | num (isInt : Bool) | str (s : String)
  | arr (xs : List JV) | obj (kvs : List (String × JV))
deriving Repr, Inhabited

structure OpReq where
  query : String
  opName : String
  hash : String        -- extensions.persistedQuery.sha256Hash ("" when absent)
deriving Repr, DecidableEq, Inhabited

/-- the last member whose key equals `name` ignoring (ASCII) case — what encoding/json does -/
def lowerChar (c : Char) : Char := if 'A' ≤ c ∧ c ≤ 'Z' then Char.ofNat (c.toNat + 32) else c

/-- `name` is given in lower case -/
def eqFold (key name : String) : Bool := key.toList.map lowerChar == name.toList

/-- all members whose key equals `name` ignoring (ASCII) case, in document order: encoding/json decodes
    each of them into the same struct field, one after the other -/
def members (kvs : List (String × JV)) (name : String) : List JV :=
  (kvs.filter fun p => eqFold p.1 name).map (·.2)

/-- a string field: `null` leaves the field as it is, a string sets it, anything else is a type error -/
def decStr (vs : List JV) : Option String :=
  vs.foldl (fun acc v => match acc, v with
    | none, _ => none
    | some s, .null => some s
    | some _, .str s => some s
    | some _, _ => none) (some "")

def decVersionOK (vs : List JV) : Bool :=
  vs.all fun v => match v with | .null => true | .num true => true | _ => false

/-- persistedQuery (a pointer to a struct): null → nil; an object fills sha256Hash / version -/
def decPersisted (vs : List JV) : Option String :=
  vs.foldl (fun acc v => match acc, v with
    | none, _ => none
    | some _, .null => some ""
    | some h, .obj kvs =>
      if decVersionOK (members kvs "version") then
        match decStr (members kvs "sha256hash") with
        | some "" => some h     -- absent or null: unchanged
        | some h' => some h'
        | none => none
      else none
    | some _, _ => none) (some "")

def decExtensions (vs : List JV) : Option String :=
  vs.foldl (fun acc v => match acc, v with
    | none, _ => none
    | some h, .null => some h
    | some h, .obj kvs =>
      match decPersisted (members kvs "persistedquery") with
      | some "" => if (members kvs "persistedquery").any (fun x => match x with | .null => true | _ => false) then some "" else some h
      | some h' => some h'
      | none => none
    | some _, _ => none) (some "")

def decVariables (vs : List JV) : Bool :=
  vs.all fun v => match v with | .null => true | .obj _ => true | _ => false

/-- `json.Unmarshal(x, &op)` with `op *HTTPOperation`: `none` = decoding error, `some none` = nil pointer -/
def decodeOp : JV → Option (Option OpReq)
  | .null => some none
  | .obj kvs =>
    match decStr (members kvs "query"), decStr (members kvs "operationname"), decExtensions (members kvs "extensions"),
          decVariables (members kvs "variables") with
    | some q, some n, some h, true => some (some ⟨q, n, h⟩)
    | _, _, _, _ => none
  | _ => none

inductive ParseErr | notJSON | notOperations | nullOperation
deriving Repr, DecidableEq

def allSome {α : Type} : List (Option α) → Option (List α)
  | [] => some []
  | some a :: rest => (allSome rest).map (a :: ·)
  | none :: _ => none

/-- `parseOperations`: a single object, else a list of objects; `body = none` is syntactically invalid JSON -/
def parseOperations (body : Option JV) : Except ParseErr (List OpReq × Bool) :=
  match body with
  | none => .error .notJSON
  | some v =>
    match decodeOp v with
    | some (some op) => .ok ([op], false)
    | some none => .error .nullOperation
    | none =>
      match v with
      | .arr xs =>
        match allSome (xs.map decodeOp) with
        | none => .error .notOperations
        | some ops =>
          match allSome ops with
          | none => .error .nullOperation
          | some l => .ok (l, true)
      | _ => .error .notOperations

inductive Entry | data | errors
deriving Repr, DecidableEq

inductive Body | single (e : Entry) | list (es : List Entry)
deriving Repr, DecidableEq

structure Resp where
  status : Nat
  body : Body
  executed : Nat      -- operations handed to the executor (the only place services are contacted)
deriving Repr, DecidableEq

def needsQuery (o : OpReq) : Bool := o.query == "" && o.hash == ""

def statusOK (ops : List OpReq) : Nat := if ops.any needsQuery then 422 else 200

def bodyOf (batch : Bool) (entries : List Entry) : Body :=
  match batch, entries with
  | false, e :: _ => .single e
  | false, [] => .list []
  | true, es => .list es

/-- the handler after parsing: an operation without query and key gets a 422 entry; the first operation that
    can not be planned answers the whole request with 400; only then everything else is executed -/
def handleOps (plannable : OpReq → Bool) (execOK : OpReq → Bool) (ops : List OpReq) (batch : Bool) : Resp :=
  let runnable := ops.filter fun o => !needsQuery o
  if runnable.any (fun o => !plannable o) then ⟨400, .single .errors, 0⟩
  else
    ⟨statusOK ops,
     bodyOf batch (ops.map fun o => if needsQuery o then Entry.errors else if execOK o then Entry.data else Entry.errors),
     runnable.length⟩

def handlePost (plannable execOK : OpReq → Bool) (body : Option JV) : Resp :=
  match parseOperations body with
  | .error _ => ⟨422, .single .errors, 0⟩
  | .ok (ops, batch) => handleOps plannable execOK ops batch

def Body.entries : Body → List Entry
  | .single e => [e]
  | .list es => es

theorem statusOK_cases (ops : List OpReq) : statusOK ops = 200 ∨ statusOK ops = 422 := by
  unfold statusOK; split
  · exact Or.inr rfl
  · exact Or.inl rfl

/-! `handleOps` has two outcomes; every statement below reads its conclusion off one of them. -/

/-- an unplannable operation refuses the whole request: 400, an errors entry, nothing executed -/
theorem unplannable_request_contacts_nobody (plannable execOK : OpReq → Bool) (ops : List OpReq) (batch : Bool)
    (h : (ops.filter fun o => !needsQuery o).any (fun o => !plannable o) = true) :
    handleOps plannable execOK ops batch = ⟨400, .single .errors, 0⟩ := by
  unfold handleOps; simp only [h, if_true]

/-- otherwise every operation gets its entry and the runnable ones are executed -/
theorem handleOps_of_plannable (plannable execOK : OpReq → Bool) (ops : List OpReq) (batch : Bool)
    (h : (ops.filter fun o => !needsQuery o).any (fun o => !plannable o) = false) :
    handleOps plannable execOK ops batch = ⟨statusOK ops,
      bodyOf batch (ops.map fun o => if needsQuery o then Entry.errors else if execOK o then Entry.data else Entry.errors),
      (ops.filter fun o => !needsQuery o).length⟩ := by
  unfold handleOps; simp only [h, Bool.false_eq_true, if_false]

/-- conversely status 400 only arises that way -/
theorem status_400_iff (plannable execOK : OpReq → Bool) (ops : List OpReq) (batch : Bool) :
    (handleOps plannable execOK ops batch).status = 400 ↔
      (ops.filter fun o => !needsQuery o).any (fun o => !plannable o) = true := by
  cases h : (ops.filter fun o => !needsQuery o).any (fun o => !plannable o) with
  | true => rw [unplannable_request_contacts_nobody _ _ _ _ h]; exact ⟨fun _ => rfl, fun _ => rfl⟩
  | false =>
    rw [handleOps_of_plannable _ _ _ _ h]
    refine ⟨fun hs => ?_, fun hf => nomatch hf⟩
    have hs : statusOK ops = 400 := hs
    rcases statusOK_cases ops with h2 | h2 <;> rw [h2] at hs <;> cases hs

/-- a body that is not a (list of) operation object(s) is refused with 422, an errors entry, nothing executed -/
theorem malformed_body_contacts_nobody (plannable execOK : OpReq → Bool) (body : Option JV) (e : ParseErr)
    (h : parseOperations body = .error e) : handlePost plannable execOK body = ⟨422, .single .errors, 0⟩ := by
  unfold handlePost; rw [h]

/-- the status is always one of 200, 400, 422 on this path and at most the operations that carry a query
    (or a persisted-query key) are executed -/
theorem status_and_executed (plannable execOK : OpReq → Bool) (ops : List OpReq) (batch : Bool) :
    let r := handleOps plannable execOK ops batch
    (r.status = 200 ∨ r.status = 400 ∨ r.status = 422) ∧ r.executed ≤ (ops.filter fun o => !needsQuery o).length := by
  cases h : (ops.filter fun o => !needsQuery o).any (fun o => !plannable o) with
  | true => rw [unplannable_request_contacts_nobody _ _ _ _ h]; exact ⟨Or.inr (Or.inl rfl), Nat.zero_le _⟩
  | false =>
    rw [handleOps_of_plannable _ _ _ _ h]
    exact ⟨(statusOK_cases ops).imp_right Or.inr, Nat.le_refl _⟩

/-- when nothing is missing and everything can be planned, a batch answers with one entry per operation,
    in the operations' order -/
theorem batch_shape (plannable execOK : OpReq → Bool) (ops : List OpReq)
    (h : (ops.filter fun o => !needsQuery o).any (fun o => !plannable o) = false) :
    ((handleOps plannable execOK ops true).body.entries).length = ops.length := by
  rw [handleOps_of_plannable _ _ _ _ h]
  exact List.length_map _

end Http
