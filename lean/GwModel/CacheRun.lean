import GwModel.Cache
/-! Sequential runs of the cache model: a request is advanced step by step until it produces its response;
    a history is a sequence of requests separated by clock advances and garbage collections.  The soundness
    of every single step (`stepReq_sound`) is lifted to whole histories. -/
namespace PCache
variable {Plan Err : Type}
variable (planOf : Text → Except Err Plan) (sha : Text → Hash) (ttl : Nat) (textOf : Hash → Text)

/-- run one request to completion (at most three atomic steps: Load, plan, LoadOrStore) -/
def runReq (cache : List (Entry Plan)) (now : Nat) (r : Req Plan) : Nat → List (Entry Plan) × Option (Resp Plan Err)
  | 0 => (cache, none)
  | fuel + 1 =>
    match stepReq planOf sha (Err := Err) { cache := cache, now := now, lastRetrieval := now, inflight := [], log := [] } r with
    | (c', _, some resp) => (c', some resp)
    | (c', some r', none) => runReq c' now r' fuel
    | (c', none, none) => (c', none)

/-- `Sound` reads the query and the hash of a request only -/
theorem Sound.of_same {r r' : Req Plan} {x : Resp Plan Err} (hq : r'.query = r.query) (hh : r'.hash = r.hash)
    (h : Sound planOf textOf r' x) : Sound planOf textOf r x := by
  unfold Sound at h ⊢
  rwa [hq, hh] at h

theorem runReq_sound : ∀ (fuel : Nat) (cache : List (Entry Plan)) (now : Nat) (r : Req Plan),
    CacheOK planOf textOf cache → ReqOK planOf sha textOf r →
    CacheOK planOf textOf (runReq planOf sha cache now r fuel).1 ∧
    ∀ x, (runReq planOf sha cache now r fuel).2 = some x → Sound planOf textOf r x
  | 0, cache, now, r, hc, _ => ⟨hc, fun x h => nomatch h⟩
  | fuel + 1, cache, now, r, hc, hr => by
    obtain ⟨hc', hr', hresp⟩ := stepReq_ok (Err := Err)
      { cache := cache, now := now, lastRetrieval := now, inflight := [], log := [] } r hc hr
    rw [runReq]
    split <;> rename_i heq <;> rw [heq] at hc' hr' hresp
    · exact ⟨hc', hresp⟩
    · obtain ⟨hrok, hq, hh⟩ := hr' _ rfl
      have ih := runReq_sound fuel _ now _ hc' hrok
      exact ⟨ih.1, fun y hy => (ih.2 y hy).of_same planOf textOf hq hh⟩
    · exact ⟨hc', fun _ h => nomatch h⟩

/-- a history: requests with the time they arrive at; garbage collection may run before any of them -/
structure Ev (Plan : Type) where
  at_ : Nat
  gcFirst : Bool
  req : Req Plan

def runHistory (cache : List (Entry Plan)) : List (Ev Plan) → List (Option (Resp Plan Err)) × List (Entry Plan)
  | [] => ([], cache)
  | e :: es =>
    let c0 := if e.gcFirst then gc ttl cache e.at_ else cache
    let (c1, resp) := runReq planOf sha (Err := Err) c0 e.at_ e.req 3
    let (rs, cN) := runHistory c1 es
    (resp :: rs, cN)

/-- **C12 for histories**: whatever the sequence of requests, idle periods and garbage collections, every
    response is the cache-less response for the text the request's hash stands for (or for its own text),
    or NotFound for a request without text whose hash is not cached; and the cache only ever holds plans
    of the texts their keys stand for -/
theorem runHistory_sound : ∀ (es : List (Ev Plan)) (cache : List (Entry Plan)),
    CacheOK planOf textOf cache → (∀ e ∈ es, ReqOK planOf sha textOf e.req) →
    CacheOK planOf textOf (runHistory planOf sha ttl (Err := Err) cache es).2 ∧
    ∀ (i : Nat) (e : Ev Plan) x, es[i]? = some e → (runHistory planOf sha ttl (Err := Err) cache es).1[i]? = some (some x) →
      Sound planOf textOf e.req x
  | [], cache, hc, _ => ⟨hc, fun i e x h => by simp at h⟩
  | e :: es, cache, hc, hr => by
    have hc0 : CacheOK planOf textOf (if e.gcFirst then gc ttl cache e.at_ else cache) := by
      split
      · exact gc_ok planOf ttl textOf hc _
      · exact hc
    have h1 := runReq_sound planOf sha textOf (Err := Err) 3 _ e.at_ e.req hc0 (hr e (List.mem_cons_self ..))
    have ih := runHistory_sound es (runReq planOf sha (Err := Err) (if e.gcFirst then gc ttl cache e.at_ else cache) e.at_ e.req 3).1 h1.1
      (fun e' he' => hr e' (List.mem_cons_of_mem _ he'))
    simp only [runHistory]
    refine ⟨ih.1, fun i e' x hi hx => ?_⟩
    cases i with
    | zero =>
      simp at hi hx
      subst hi
      exact h1.2 x hx
    | succ i =>
      simp at hi hx
      exact ih.2 i e' x hi hx

end PCache
