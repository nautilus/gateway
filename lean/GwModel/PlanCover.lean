import GwModel.PlanNoFrag
/-! Nothing the client asked for is lost by planning (C01, planner half; documents without named fragments).

    A *leaf path* of a selection is the list of response keys from the selection down to a field without
    sub-selection, seen through inline fragments.  `extract_covers`: every leaf path of the selection handed to
    `extractSelection` is a leaf path of the selection it returns for the step, or — prefixed with the insertion
    point — of a pending step.  `planOperation_covers`: every leaf path of the operation is, relative to the
    step's insertion point, a leaf path of some step of the plan. -/
namespace Pl

mutual
def leafPaths : Sel → List (List String)
  | .field a _ _ _ _ _ sub => if sub.isEmpty then [[a]] else (leafPathsL sub).map (a :: ·)
  | .inline _ _ sub => leafPathsL sub
  | .spread _ _ => []
def leafPathsL : List Sel → List (List String)
  | [] => []
  | s :: ss => leafPaths s ++ leafPathsL ss
end

theorem leafPathsL_append : ∀ (a b : List Sel), leafPathsL (a ++ b) = leafPathsL a ++ leafPathsL b
  | [], b => by simp [leafPathsL]
  | s :: a, b => by simp [leafPathsL, leafPathsL_append a b, List.append_assoc]

theorem mem_leafPathsL {q : List String} : ∀ {l : List Sel}, q ∈ leafPathsL l ↔ ∃ s ∈ l, q ∈ leafPaths s
  | [] => by simp [leafPathsL]
  | s :: l => by
    simp only [leafPathsL, List.mem_append, List.mem_cons, exists_eq_or_imp]
    rw [mem_leafPathsL (l := l)]

theorem leafPathsL_nestIn : ∀ (ws inner : List Sel), leafPathsL (nestIn ws inner) = leafPathsL inner
  | [], _ => rfl
  | .inline c d s :: ws, inner => by simp only [nestIn, leafPathsL, leafPaths, List.append_nil, leafPathsL_nestIn ws inner]
  | .spread .. :: ws, inner => leafPathsL_nestIn ws inner
  | .field .. :: ws, inner => leafPathsL_nestIn ws inner

theorem wrap_inlineOnly (ws : List Sel) (T : String) (defs : List FragDef) (inner : List Sel) (h : inlineOnly ws = true) :
    ∃ x, wrap ws T defs inner = .ok (x, defs) ∧ leafPathsL x = leafPathsL inner :=
  ⟨nestIn ws inner, by rw [wrap, wrapDefs_inlineOnly T ws h, List.append_nil, wrapNest_inlineOnly ws inner defs h],
    leafPathsL_nestIn ws inner⟩

/-! ### buckets keep what is put into them -/

/-- some bundle of the grouping holds a selection with leaf path `q` -/
def InBuckets (q : List String) (b : Buckets Sel) : Prop := ∃ l, q ∈ leafPathsL (b.get l)

theorem group_covers {env : Env} {pl : Loc} {T : String} {sf : List FragDef} {q : List String} :
    ∀ (sels : List Sel) (acc res : Buckets Sel × Buckets FragDef), noSpreadL sels = true →
      group env pl T sf sels acc = .ok res → (InBuckets q acc.1 ∨ q ∈ leafPathsL sels) → InBuckets q res.1 := by
  intro sels acc res _ h hq
  obtain ⟨old, fs, ins⟩ := group_complete sels acc res h
  rcases hq with ⟨l, hq⟩ | hq
  · obtain ⟨y, hy, hq⟩ := mem_leafPathsL.1 hq
    exact ⟨l, mem_leafPathsL.2 ⟨y, old l y hy, hq⟩⟩
  · obtain ⟨x, hx, hq⟩ := mem_leafPathsL.1 hq
    cases x with
    | field a n g gv d t s =>
      obtain ⟨l, _, hm⟩ := fs _ _ _ _ _ _ _ hx
      exact ⟨l, mem_leafPathsL.2 ⟨_, hm, hq⟩⟩
    | inline c d sub =>
      obtain ⟨s, hs, hq⟩ := mem_leafPathsL.1 hq
      obtain ⟨l, ss, _, hss, hm⟩ := ins c d sub hx s hs
      exact ⟨l, mem_leafPathsL.2 ⟨_, hm, mem_leafPathsL.2 ⟨s, hss, hq⟩⟩⟩
    | spread => cases hq

/-! ### selections with the same printed form have the same leaf paths -/
mutual
theorem beqSel_leafPaths : ∀ (a b : Sel), beqSel a b = true → leafPaths a = leafPaths b
  | .field a n g gv d t s, .field a' n' g' gv' d' t' s', h => by
    simp only [beqSel, Bool.and_eq_true, beq_iff_eq] at h
    obtain ⟨⟨⟨⟨ha, _⟩, _⟩, _⟩, hs⟩ := h
    have hp := beqSels_leafPaths s s' hs
    have he := beqSels_isEmpty s s' hs
    simp only [leafPaths, ha, hp, he]
  | .inline c d s, .inline c' d' s', h => by
    simp only [beqSel, Bool.and_eq_true] at h
    simp only [leafPaths]; exact beqSels_leafPaths s s' h.2
  | .spread n d, .spread n' d', _ => rfl
  | .field .., .inline .., h => by simp [beqSel] at h
  | .field .., .spread .., h => by simp [beqSel] at h
  | .inline .., .field .., h => by simp [beqSel] at h
  | .inline .., .spread .., h => by simp [beqSel] at h
  | .spread .., .field .., h => by simp [beqSel] at h
  | .spread .., .inline .., h => by simp [beqSel] at h
theorem beqSels_leafPaths : ∀ (a b : List Sel), beqSels a b = true → leafPathsL a = leafPathsL b
  | [], [], _ => rfl
  | x :: xs, y :: ys, h => by
    simp only [beqSels, Bool.and_eq_true] at h
    simp only [leafPathsL, beqSel_leafPaths x y h.1, beqSels_leafPaths xs ys h.2]
  | [], _ :: _, h => by simp [beqSels] at h
  | _ :: _, [], h => by simp [beqSels] at h
theorem beqSels_isEmpty : ∀ (a b : List Sel), beqSels a b = true → a.isEmpty = b.isEmpty
  | [], [], _ => rfl
  | _ :: _, _ :: _, _ => rfl
  | [], _ :: _, h => by simp [beqSels] at h
  | _ :: _, [], h => by simp [beqSels] at h
end


/-- `appendNewSelections` loses no leaf path of either argument -/
theorem appendNew_covers (q : List String) : ∀ (source target : List Sel),
    (q ∈ leafPathsL target ∨ q ∈ leafPathsL source) → q ∈ leafPathsL (appendNew target source) := by
  intro source target h
  obtain ⟨extra, h1, _, h3⟩ := appendNew_spec source target
  rw [h1]
  rcases h with h | h
  · rw [leafPathsL_append]; exact List.mem_append_left _ h
  · obtain ⟨s, hs, hq⟩ := mem_leafPathsL.1 h
    obtain ⟨t, ht, he⟩ := h3 s hs
    refine mem_leafPathsL.2 ⟨t, ht, ?_⟩
    rcases he with rfl | he
    · exact hq
    · rw [beqSel_leafPaths t s he]; exact hq

/-! ### pending steps -/

/-- a pending step holds the (absolute) leaf path `x` -/
def Held (queue : List Payload) (x : List String) : Prop := ∃ p ∈ queue, ∃ q ∈ leafPathsL p.sel, x = p.ip ++ q

theorem held_addStep_old {x : List String} {queue : List Payload} (p : Payload) (h : Held queue x) : Held (addStep queue p) x := by
  obtain ⟨p0, hm, q, hq, hx⟩ := h
  rcases addStep_spec queue p with ⟨pre, o, post, rfl, _, h3⟩ | h
  · rw [h3]
    rcases List.mem_append.1 hm with hm | hm
    · exact ⟨p0, List.mem_append_left _ hm, q, hq, hx⟩
    · rcases List.mem_cons.1 hm with rfl | hm
      · exact ⟨_, List.mem_append_right _ (List.mem_cons_self ..), q, appendNew_covers q _ _ (Or.inl hq), hx⟩
      · exact ⟨p0, List.mem_append_right _ (List.mem_cons_of_mem _ hm), q, hq, hx⟩
  · exact ⟨p0, h ▸ List.mem_append_left _ hm, q, hq, hx⟩

theorem held_addStep_new {q : List String} (queue : List Payload) (p : Payload) (h : q ∈ leafPathsL p.sel) :
    Held (addStep queue p) (p.ip ++ q) := by
  rcases addStep_spec queue p with ⟨pre, o, post, _, h2, h3⟩ | h'
  · have hip : o.ip = p.ip := by
      simp only [samePlace, Bool.and_eq_true, beq_iff_eq] at h2; exact h2.2
    exact ⟨_, h3 ▸ List.mem_append_right _ (List.mem_cons_self ..), q, appendNew_covers q _ _ (Or.inr h), by rw [hip]⟩
  · exact ⟨p, h' ▸ List.mem_append_right _ (List.mem_singleton.2 rfl), q, h, rfl⟩

/-- everything bundled for another location ends up in a pending step, below the current insertion point -/
theorem kickOff_covers {cfg : Cfg} {lfr : Buckets FragDef} (hw : inlineOnly cfg.wrapper = true) :
    ∀ (lf : Buckets Sel) (st st1 : St), kickOff cfg lfr lf st = .ok st1 →
      (∀ x, Held st.queue x → Held st1.queue x) ∧
      ∀ l ss, (l, ss) ∈ lf → l ≠ cfg.loc → ∀ q ∈ leafPathsL ss, Held st1.queue (cfg.ip ++ q) := by
  refine kickOff_induct (fun _ => ⟨fun _ h => h, fun _ _ h => (nomatch h)⟩) ?_ ?_
  · intro ss rest st st1 ⟨mono, cov⟩
    refine ⟨mono, fun l ss' hm hne => ?_⟩
    rcases List.mem_cons.1 hm with he | hm
    · cases he; exact absurd rfl hne
    · exact cov l ss' hm hne
  · intro l ss rest st st1 ss' fr' _ hwr ⟨mono, cov⟩
    rw [wrapped_inlineOnly hw] at hwr
    cases hwr
    refine ⟨fun x hx => mono x (held_addStep_old _ hx), fun l' ss' hm hne q hq => ?_⟩
    rcases List.mem_cons.1 hm with he | hm
    · cases he
      exact mono _ (held_addStep_new (q := q) st.queue ⟨some cfg.step, l, cfg.parentType, cfg.ip, nestIn cfg.wrapper ss, lfr.get l⟩
        (by rw [leafPathsL_nestIn]; exact hq))
    · exact cov l' ss' hm hne q hq

/-- what the induction hypothesis says about a recursive call -/
def RecCovers (rec : Cfg → St → Except Err (List Sel × St)) : Prop :=
  ∀ cfg st sel st', rec cfg st = .ok (sel, st') → noSpreadL cfg.sel = true → inlineOnly cfg.wrapper = true →
    (∀ x, Held st.queue x → Held st'.queue x) ∧
    ∀ q ∈ leafPathsL cfg.sel, q ∈ leafPathsL sel ∨ Held st'.queue (cfg.ip ++ q)

theorem mem_leafPaths_field {q : List String} {a n g : String} {gv : List String} {d : List Dir} {t : String} {sub : List Sel}
    (hne : sub ≠ []) : q ∈ leafPaths (.field a n g gv d t sub) ↔ ∃ q' ∈ leafPathsL sub, q = a :: q' := by
  cases sub with
  | nil => exact absurd rfl hne
  | cons x xs =>
    simp only [leafPaths, List.isEmpty_cons, Bool.false_eq_true, if_false, List.mem_map]
    exact ⟨fun ⟨q', h, e⟩ => ⟨q', h, e.symm⟩, fun ⟨q', h, e⟩ => ⟨q', h, e.symm⟩⟩

/-- **`extractSelection` loses nothing**: every leaf path of the selection it is given is a leaf path of what it
    returns for the step or, below the insertion point, of a pending step. -/
theorem extract_covers (env : Env) : ∀ (fuel : Nat), RecCovers (extract env fuel) := by
  intro fuel cfg st sel st' h hns hw
  -- what is pending stays pending whatever the selection; the claim itself needs the hypotheses at every call
  let M : Call := fun cfg st sel st' => (∀ x, Held st.queue x → Held st'.queue x) ∧
    (noSpreadL cfg.sel = true → inlineOnly cfg.wrapper = true →
      ∀ q ∈ leafPathsL cfg.sel, q ∈ leafPathsL sel ∨ Held st'.queue (cfg.ip ++ q))
  suffices key : M cfg st sel st' from ⟨key.1, key.2 hns hw⟩
  refine extract_induct (motive := M) ?_ fuel cfg st sel st' h
  clear h hns hw
  intro cfg st lf lfr st1 sel st' hg hk hp
  have trans : ∀ {a b c : List Payload}, (∀ x, Held a x → Held b x) → (∀ x, Held b x → Held c x) → ∀ x, Held a x → Held c x :=
    fun h1 h2 x hx => h2 x (h1 x hx)
  have loopMono : ∀ {ss ss' st st'}, SelSteps M cfg (lfr.get cfg.loc) ss st ss' st' → ∀ x, Held st.queue x → Held st'.queue x :=
    fun hp => hp.queue (Q := fun a b => ∀ x, Held a x → Held b x) (fun _ _ h => h) trans (fun _ _ _ _ h _ _ _ => h.1)
  refine ⟨trans (kickOff_queue (Q := fun a b => ∀ x, Held a x → Held b x) (fun _ _ h => h) trans
    (fun _ _ _ _ _ _ hx => held_addStep_old _ hx) hk) (loopMono hp), fun hns hw q hq => ?_⟩
  -- a leaf path of what the loop goes through is one of what it returns, or is held afterwards
  have loop : ∀ q ∈ leafPathsL (current cfg lf), q ∈ leafPathsL sel ∨ Held st'.queue (cfg.ip ++ q) := by
    have hcur := current_noSpread hg hns
    clear hk hg hq
    generalize current cfg lf = cur at hp hcur
    induction hp with
    | nil => exact fun _ h => (nomatch h)
    | cons h1 h2 ih =>
      intro q hq
      have hs := hcur _ (List.mem_cons_self ..)
      rcases List.mem_append.1 hq with hq | hq
      · suffices q ∈ leafPaths _ ∨ Held _ (cfg.ip ++ q) from
          this.imp (fun h => List.mem_append_left _ h) (loopMono h2 _)
        cases h1 with
        | leaf => exact Or.inl hq
        | field hne hr =>
          obtain ⟨q', hq', rfl⟩ := (mem_leafPaths_field hne).1 hq
          refine (hr.2 hs (inlineOnly_fieldWrapper _ _ hw) q' hq').imp (fun hin => ?_) (fun hh => ?_)
          · exact (mem_leafPaths_field (fun he => by rw [he] at hin; cases hin)).2 ⟨q', hin, rfl⟩
          · rw [List.append_assoc] at hh; exact hh
        | inline hr => exact hr.2 hs (inlineOnly_append_inline _ _ _ _ hw) q hq
        | spreadNew => cases hs
        | spreadSame => cases hs
        | spreadInline => cases hs
      · exact (ih (fun s h => hcur s (List.mem_cons_of_mem _ h)) q hq).imp (fun h => List.mem_append_right _ h) id
  obtain ⟨l, hl⟩ := group_covers (q := q) cfg.sel ([], []) (lf, lfr) hns hg (Or.inr hq)
  by_cases hloc : l = cfg.loc
  · exact loop q (by rw [current, leafPathsL_append, hloc.symm]; exact List.mem_append_left _ hl)
  · rcases get_mem_or_nil lf l with hm | hm
    · exact Or.inr (loopMono hp _ ((kickOff_covers hw lf st st1 hk).2 l _ hm hloc q hl))
    · rw [hm] at hl; cases hl

/-! ### whole plans -/

/-- the (absolute) leaf path `x` is asked for by a built step or a pending one -/
def Asked (queue : List Payload) (acc : List Step) (x : List String) : Prop :=
  Held queue x ∨ ∃ s ∈ acc, ∃ q ∈ leafPathsL s.sel, x = s.ip ++ q

/-- **Nothing the client asked for is lost by planning** (documents without named fragments; inline fragments,
    typed or not, nested and with directives, are covered): every leaf path of the operation — the response keys
    from the root down to a field without sub-selection — is, below the insertion point of some step of the plan,
    a leaf path of that step's selection.  For every routing table, priority list and fuel. -/
theorem planOperation_covers {env : Env} {fuel : Nat} {operation : String} {sels : List Sel} {steps : List Step}
    (h : planOperation env fuel operation sels = .ok steps) (hns : noSpreadL sels = true) :
    ∀ x ∈ leafPathsL sels, ∃ s ∈ steps, ∃ q ∈ leafPathsL s.sel, x = s.ip ++ q := by
  intro x hx
  have ⟨_, _, ha⟩ := buildSteps_induct (motive := fun _ queue acc => QueueNoSpread queue ∧ Asked queue acc x) ?_ _ _ _ _ _ h
    ⟨fun p hp => by rw [List.mem_singleton.1 hp]; exact hns, Or.inl ⟨_, List.mem_singleton.2 rfl, x, hx, rfl⟩⟩
  · exact ha.resolve_left fun ⟨_, hm, _⟩ => (nomatch hm)
  intro next p queue acc sel st ⟨hq, ha⟩ he
  have hp : noSpreadL p.sel = true := hq p (List.mem_cons_self ..)
  obtain ⟨hmono, hcov⟩ := extract_covers env fuel _ _ _ _ he hp rfl
  refine ⟨extract_noSpread he hp rfl fun o ho => hq o (List.mem_cons_of_mem _ ho), ?_⟩
  rcases ha with ⟨p0, hm, q, hq0, hx⟩ | ⟨s, hs, q, hq0, hx⟩
  · rcases List.mem_cons.1 hm with rfl | hm
    · -- the payload being built held it: now the new step does, or a pending step kicked off by it
      exact (hcov q hq0).elim (fun hin => Or.inr ⟨_, List.mem_append_right _ (List.mem_singleton.2 rfl), q, hin, hx⟩)
        fun hh => Or.inl (hx ▸ hh)
    · exact Or.inl (hmono x ⟨p0, hm, q, hq0, hx⟩)
  · exact Or.inr ⟨s, List.mem_append_left _ hs, q, hq0, hx⟩

end Pl
