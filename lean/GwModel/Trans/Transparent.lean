import GwModel.Trans.Lemmas
namespace Tr

variable (st : Store) (r : Routing)

/-- the full value of field `s` at object `o` in the monolith -/
def fullVal (o : Obj) : Sel → Val
  | .mk _ n sub => mapData st (fun o' => .obj o'.id (evalSels st o' sub [])) (fieldOf o n)

theorem evalSel_eq (o : Obj) (s : Sel) (X : KV Val) :
    evalSel st o s X = ins (aliasOf s) (fullVal st o s) X := by
  cases s; simp [evalSel, fullVal, aliasOf]

mutual
def NodupSels : List Sel → Prop
  | [] => True
  | s :: ss => aliasOf s ∉ aliases ss ∧ NodupSel s ∧ NodupSels ss
def NodupSel : Sel → Prop
  | .mk _ _ sub => NodupSels sub
end

mutual
theorem aliases_local_sels (L T : Nat) : ∀ (l : List Sel) (a : Nat),
    a ∈ aliases (splitSels r L T l).1 → a ∈ aliases l
  | [], a, h => by simp [splitSels, aliases] at h
  | s :: ss, a, h => by
    simp only [splitSels, aliases, List.map_append, List.mem_append] at h
    simp only [aliases, List.map_cons, List.mem_cons]
    rcases h with h | h
    · left; exact aliases_local_sel L T s a h
    · right; exact aliases_local_sels L T ss a h
theorem aliases_local_sel (L T : Nat) : ∀ (s : Sel) (a : Nat),
    a ∈ (splitSel r L T s).1.map aliasOf → a = aliasOf s
  | .mk b n sub, a, h => by
    simp only [splitSel] at h
    split at h
    · simp [aliasOf] at h; simp [aliasOf, h]
    · simp at h
end

/-- what the dependent steps of one field do at the level of its parent object:
    they only produce/rewrite the field's own response key -/
def HeadOK (o : Obj) (s : Sel) (p : List Sel × List (List Nat × Step)) : Prop :=
  (∀ X, applyKids st p.2 o (evalSels st o p.1 X) = ins (aliasOf s) (fullVal st o s) X) ∧
  (∀ b v X, b ≠ aliasOf s → applyKids st p.2 o (ins b v X) = ins b v (applyKids st p.2 o X))

mutual
/-- **Transparency (K₀⁻).** Executing the plan for a selection set at an object gives the
    monolith's answer for that selection set at that object. -/
theorem transparent_sels (L T : Nat) : ∀ (l : List Sel) (o : Obj) (X : KV Val), NodupSels l →
    applyKids st (splitSels r L T l).2 o (evalSels st o (splitSels r L T l).1 X) = evalSels st o l X
  | [], o, X, _ => by simp [splitSels, applyKids, evalSels]
  | s :: ss, o, X, hnd => by
    obtain ⟨hs, hnds, hndss⟩ := hnd
    have hh := transparent_sel L T s o hnds
    have ih := transparent_sels L T ss o
    simp only [splitSels]
    rw [applyKids_append, evalSels_append]
    -- the head's kids only touch the head's key, so they move inside past the tail's local selections
    have hfresh : aliasOf s ∉ aliases (splitSels r L T ss).1 := fun hm => hs (aliases_local_sels r L T ss _ hm)
    rw [← evalSels_commute st o _ _ hh.2 _ _ hfresh, hh.1, ih _ hndss, evalSels, evalSel_eq]
theorem transparent_sel (L T : Nat) : ∀ (s : Sel) (o : Obj), NodupSel s →
    HeadOK st o s (splitSel r L T s)
  | .mk a n sub, o, hnd => by
    have hnd' : NodupSels sub := hnd
    -- value produced below this field, on either side of the split
    have hval : ∀ (l : Nat),
        mapObjs st (fun o' kvs' => applyKids st (splitSels r l (r.ftype T n) sub).2 o' kvs')
          (mapData st (fun o' => .obj o'.id (evalSels st o' (splitSels r l (r.ftype T n) sub).1 [])) (fieldOf o n))
        = fullVal st o (.mk a n sub) := by
      intro l
      rw [mapObjs_mapData]
      unfold fullVal
      apply mapData_congr
      intro o'
      rw [transparent_sels l (r.ftype T n) sub o' [] hnd']
    simp only [splitSel]
    split
    · -- kept at the current service
      refine ⟨?_, ?_⟩
      · intro X
        simp only [evalSels, evalSel, aliasOf]
        rw [applyKids_prefix, hval]
      · intro b v X hb
        exact applyKids_prefix_other st a b (Ne.symm hb) _ o v X
    · -- fetched from another service through a dependent step
      have hden : den st (.mk (r.choose T n L) [.mk a n (splitSels r (r.choose T n L) (r.ftype T n) sub).1]
            (prefixKids a (splitSels r (r.choose T n L) (r.ftype T n) sub).2)) o
          = ins a (fullVal st o (.mk a n sub)) [] := by
        simp only [den, evalSels, evalSel]
        rw [applyKids_prefix, hval]
      refine ⟨?_, ?_⟩
      · intro X
        simp only [applyKids, mergeAt, evalSels, aliasOf]
        rw [hden, union_single]
      · intro b v X hb
        simp only [applyKids, mergeAt]
        rw [hden, union_single, union_single]
        exact ins_comm a b _ _ (fun h => hb (by simp [aliasOf, h])) X
end

/-- corollary at the top: the plan's answer for a whole selection set equals the monolith's -/
theorem transparent (L T : Nat) (l : List Sel) (o : Obj) (h : NodupSels l) :
    applyKids st (splitSels r L T l).2 o (evalSels st o (splitSels r L T l).1 []) = evalSels st o l [] :=
  transparent_sels st r L T l o [] h

#print axioms transparent
end Tr
