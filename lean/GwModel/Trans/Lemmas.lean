import GwModel.Trans.Sem
namespace Tr

/-! ### assoc-list helpers -/

theorem modKey_ins_same (a : Nat) (g : Val → Val) (v : Val) :
    ∀ m : KV Val, modKey a g (ins a v m) = ins a (g v) m
  | [] => by simp [ins, modKey]
  | (k, w) :: m => by
    have ih := modKey_ins_same a g v m
    simp only [ins]; grind [modKey, ins]

theorem modKey_ins_other (a b : Nat) (g : Val → Val) (v : Val) (h : a ≠ b) :
    ∀ m : KV Val, modKey a g (ins b v m) = ins b v (modKey a g m)
  | [] => by simp [ins, modKey, h]
  | (k, w) :: m => by
    have ih := modKey_ins_other a b g v h m
    simp only [ins, modKey]; grind [modKey, ins]

theorem union_single (m : KV Val) (a : Nat) (w : Val) : union m (ins a w []) = ins a w m := by
  simp [union, ins]

/-! ### structure lemmas -/

def aliasOf : Sel → Nat | .mk a _ _ => a
def aliases (l : List Sel) : List Nat := l.map aliasOf

theorem find_id {st : Store} {i : Nat} {o : Obj} (h : st.find i = some o) : st.find o.id = some o := by
  unfold Store.find at h ⊢
  have hi : o.id = i := by simpa using List.find?_some h
  rw [hi]; exact h

mutual
theorem mapObjs_mapData (st : Store) (g : Obj → KV Val → KV Val) (F : Obj → KV Val) :
    ∀ d : Data, mapObjs st g (mapData st (fun o' => .obj o'.id (F o')) d)
      = mapData st (fun o' => .obj o'.id (g o' (F o'))) d
  | .null => by simp [mapData, mapObjs]
  | .scalar n => by simp [mapData, mapObjs]
  | .ref id => by
    simp only [mapData]
    cases h : st.find id with
    | none => simp [mapObjs]
    | some o' => simp [mapObjs, find_id h]
  | .list xs => by
    simp only [mapData, mapObjs]
    rw [mapObjsL_mapDataL st g F xs]
theorem mapObjsL_mapDataL (st : Store) (g : Obj → KV Val → KV Val) (F : Obj → KV Val) :
    ∀ ds : List Data, mapObjsL st g (mapDataL st (fun o' => .obj o'.id (F o')) ds)
      = mapDataL st (fun o' => .obj o'.id (g o' (F o'))) ds
  | [] => by simp [mapDataL, mapObjsL]
  | d :: ds => by
    simp only [mapDataL, mapObjsL]
    rw [mapObjs_mapData st g F d, mapObjsL_mapDataL st g F ds]
end

mutual
theorem mapData_congr (st : Store) (f g : Obj → Val) (h : ∀ o, f o = g o) :
    ∀ d : Data, mapData st f d = mapData st g d
  | .null => by simp [mapData]
  | .scalar n => by simp [mapData]
  | .ref id => by simp only [mapData]; cases st.find id <;> simp [h]
  | .list xs => by simp only [mapData]; rw [mapDataL_congr st f g h xs]
theorem mapDataL_congr (st : Store) (f g : Obj → Val) (h : ∀ o, f o = g o) :
    ∀ ds : List Data, mapDataL st f ds = mapDataL st g ds
  | [] => rfl
  | d :: ds => by simp only [mapDataL]; rw [mapData_congr st f g h d, mapDataL_congr st f g h ds]
end

mutual
theorem mapObjs_comp (st : Store) (g₁ g₂ : Obj → KV Val → KV Val) :
    ∀ v : Val, mapObjs st g₂ (mapObjs st g₁ v) = mapObjs st (fun o kvs => g₂ o (g₁ o kvs)) v
  | .null => by simp [mapObjs]
  | .scalar n => by simp [mapObjs]
  | .obj id kvs => by
    simp only [mapObjs]
    cases h : st.find id with
    | none => simp [mapObjs, h]
    | some o' => simp [mapObjs, h]
  | .list xs => by simp only [mapObjs]; rw [mapObjsL_comp st g₁ g₂ xs]
theorem mapObjsL_comp (st : Store) (g₁ g₂ : Obj → KV Val → KV Val) :
    ∀ vs : List Val, mapObjsL st g₂ (mapObjsL st g₁ vs) = mapObjsL st (fun o kvs => g₂ o (g₁ o kvs)) vs
  | [] => rfl
  | v :: vs => by simp only [mapObjsL]; rw [mapObjs_comp st g₁ g₂ v, mapObjsL_comp st g₁ g₂ vs]
end

mutual
theorem mapObjs_id (st : Store) : ∀ v : Val, mapObjs st (fun _ kvs => kvs) v = v
  | .null => by simp [mapObjs]
  | .scalar n => by simp [mapObjs]
  | .obj id kvs => by simp only [mapObjs]; cases st.find id <;> rfl
  | .list xs => by simp only [mapObjs]; rw [mapObjsL_id st xs]
theorem mapObjsL_id (st : Store) : ∀ vs : List Val, mapObjsL st (fun _ kvs => kvs) vs = vs
  | [] => rfl
  | v :: vs => by simp only [mapObjsL]; rw [mapObjs_id st v, mapObjsL_id st vs]
end

/-- prefixed kids only rewrite the value under key `a` -/
theorem applyKids_prefix (st : Store) (a : Nat) :
    ∀ (ks : List (List Nat × Step)) (o : Obj) (v : Val) (X : KV Val),
      applyKids st (prefixKids a ks) o (ins a v X)
        = ins a (mapObjs st (fun o' kvs' => applyKids st ks o' kvs') v) X
  | [], o, v, X => by
    simp [prefixKids, applyKids, mapObjs_id]
  | (p, kid) :: ks, o, v, X => by
    have ih := applyKids_prefix st a ks o
    simp only [prefixKids, List.map_cons] at ih ⊢
    simp only [applyKids, mergeAt]
    rw [modKey_ins_same]
    rw [ih]
    rw [mapObjs_comp]

theorem applyKids_prefix_other (st : Store) (a b : Nat) (h : a ≠ b) :
    ∀ (ks : List (List Nat × Step)) (o : Obj) (v : Val) (X : KV Val),
      applyKids st (prefixKids a ks) o (ins b v X) = ins b v (applyKids st (prefixKids a ks) o X)
  | [], o, v, X => by simp [prefixKids, applyKids]
  | (p, kid) :: ks, o, v, X => by
    have ih := applyKids_prefix_other st a b h ks o
    simp only [prefixKids, List.map_cons] at ih ⊢
    simp only [applyKids, mergeAt]
    rw [modKey_ins_other a b _ v h, ih]

theorem applyKids_append (st : Store) :
    ∀ (k₁ k₂ : List (List Nat × Step)) (o : Obj) (X : KV Val),
      applyKids st (k₁ ++ k₂) o X = applyKids st k₂ o (applyKids st k₁ o X)
  | [], _, _, _ => by simp [applyKids]
  | (p, kid) :: k₁, k₂, o, X => by
    simp only [List.cons_append, applyKids]
    exact applyKids_append st k₁ k₂ o _

theorem evalSels_append (st : Store) (o : Obj) :
    ∀ (l₁ l₂ : List Sel) (X : KV Val), evalSels st o (l₁ ++ l₂) X = evalSels st o l₂ (evalSels st o l₁ X)
  | [], _, _ => by simp [evalSels]
  | s :: l₁, l₂, X => by
    simp only [List.cons_append, evalSels]
    exact evalSels_append st o l₁ l₂ _

theorem evalSel_eq_ins (st : Store) (o : Obj) (s : Sel) :
    ∃ w, ∀ X, evalSel st o s X = ins (aliasOf s) w X := by
  cases s; exact ⟨_, fun _ => by rw [evalSel]; rfl⟩

/-- whatever commutes with inserting under every key but `a` commutes with evaluating selections that do not
    use `a` -/
theorem evalSels_commute (st : Store) (o : Obj) (a : Nat) (K : KV Val → KV Val)
    (hK : ∀ b v X, b ≠ a → K (ins b v X) = ins b v (K X)) :
    ∀ (l : List Sel) (X : KV Val), a ∉ aliases l → evalSels st o l (K X) = K (evalSels st o l X)
  | [], _, _ => by rw [evalSels, evalSels]
  | s :: l, X, h => by
    have hs : aliasOf s ≠ a := fun e => h (e ▸ List.mem_cons_self ..)
    have hl : a ∉ aliases l := fun m => h (List.mem_cons_of_mem _ m)
    obtain ⟨w, hw⟩ := evalSel_eq_ins st o s
    rw [evalSels, evalSels, hw, ← hK _ _ _ hs, ← hw, evalSels_commute st o a K hK l _ hl]

/-- inserting a fresh key commutes with evaluating selections that do not use it -/
theorem evalSels_ins (st : Store) (o : Obj) (a : Nat) (v : Val) :
    ∀ (l : List Sel) (X : KV Val), a ∉ aliases l →
      evalSels st o l (ins a v X) = ins a v (evalSels st o l X) :=
  evalSels_commute st o a (ins a v) fun _ _ X hb => ins_comm _ _ _ _ (Ne.symm hb) X

end Tr
