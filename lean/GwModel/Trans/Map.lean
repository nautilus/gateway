/-! Canonical finite maps Nat → α as key-sorted association lists (prototype for response objects). -/
namespace Tr

abbrev KV (α : Type) := List (Nat × α)

def ins {α} (k : Nat) (v : α) : KV α → KV α
  | [] => [(k, v)]
  | (k', v') :: m =>
    if k < k' then (k, v) :: (k', v') :: m
    else if k = k' then (k, v) :: m
    else (k', v') :: ins k v m

def get {α} (k : Nat) : KV α → Option α
  | [] => none
  | (k', v') :: m => if k = k' then some v' else get k m

/-- right-biased union: entries of `b` are inserted into `a` -/
def union {α} (a b : KV α) : KV α := b.foldl (fun m p => ins p.1 p.2 m) a

theorem ins_comm {α} (k₁ k₂ : Nat) (v₁ v₂ : α) (h : k₁ ≠ k₂) :
    ∀ m : KV α, ins k₁ v₁ (ins k₂ v₂ m) = ins k₂ v₂ (ins k₁ v₁ m) := by
  intro m
  induction m with
  | nil => grind [ins]
  | cons p m ih => grind [ins]

theorem ins_idem {α} (k : Nat) (v w : α) : ∀ m : KV α, ins k v (ins k w m) = ins k v m := by
  intro m
  induction m with
  | nil => grind [ins]
  | cons p m ih => grind [ins]

/-- `ins` is `Function.update` as `get` sees it -/
theorem get_ins {α} (k k' : Nat) (v : α) (m : KV α) : get k' (ins k v m) = if k' = k then some v else get k' m := by
  induction m with
  | nil => grind [ins, get]
  | cons p m ih => grind [ins, get]

theorem get_ins_same {α} (k : Nat) (v : α) : ∀ m : KV α, get k (ins k v m) = some v :=
  fun m => (get_ins k k v m).trans (if_pos rfl)

theorem get_ins_other {α} (k k' : Nat) (v : α) (h : k' ≠ k) : ∀ m : KV α, get k' (ins k v m) = get k' m :=
  fun m => (get_ins k k' v m).trans (if_neg h)

end Tr
