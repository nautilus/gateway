import GwModel.PlanLemmas
/-! Documents without named fragments: the class most planner theorems are stated for.  No selection spreads a named
    fragment (`noSpread`), so the wrappers `extractSelection` carries are inline fragments (`inlineOnly`), wrapping is the
    plain nesting `nestIn`, and the recursion meets fields and inline fragments only.  `extract_forall_queue` gives, for
    a class of configurations the recursive calls stay in, every invariant of the pending steps at once. -/
namespace Pl

mutual
/-- no named fragment is spread anywhere in the selection -/
def noSpread : Sel → Bool
  | .field _ _ _ _ _ _ sub => noSpreadL sub
  | .inline _ _ sub => noSpreadL sub
  | .spread _ _ => false
def noSpreadL : List Sel → Bool
  | [] => true
  | s :: ss => noSpread s && noSpreadL ss
end

theorem noSpreadL_iff : ∀ {l : List Sel}, noSpreadL l = true ↔ ∀ s ∈ l, noSpread s = true
  | [] => by simp [noSpreadL]
  | x :: l => by simp only [noSpreadL, Bool.and_eq_true, List.forall_mem_cons, noSpreadL_iff (l := l)]

theorem noSpreadL_mem : ∀ {l : List Sel}, noSpreadL l = true → ∀ s ∈ l, noSpread s = true :=
  noSpreadL_iff.1

/-! ### wrappers of inline fragments only: `wrapSelectionSet` is plain nesting -/

def inlineOnly : List Sel → Bool
  | [] => true
  | .inline .. :: ws => inlineOnly ws
  | _ :: _ => false

theorem inlineOnly_iff : ∀ {ws : List Sel}, inlineOnly ws = true ↔ ∀ w ∈ ws, isInline w = true
  | [] => by simp [inlineOnly]
  | .inline .. :: ws => by simp only [inlineOnly, List.forall_mem_cons, isInline, true_and, inlineOnly_iff (ws := ws)]
  | .field .. :: _ => by simp [inlineOnly, isInline]
  | .spread .. :: _ => by simp [inlineOnly, isInline]

theorem inlineOnly_append_inline (ws : List Sel) (c : String) (d : List Dir) (s : List Sel) (h : inlineOnly ws = true) :
    inlineOnly (ws ++ [.inline c d s]) = true :=
  inlineOnly_iff.2 fun w hw => (List.mem_append.1 hw).elim (inlineOnly_iff.1 h w) fun hw => by rw [List.mem_singleton.1 hw]; rfl

/-- below a field the wrappers are the conditions of those above it and of the field: inline fragments without a type
    condition -/
theorem fieldWrapper_untyped (ws : List Sel) (d : List Dir) (h : inlineOnly ws = true) :
    ∀ w ∈ fieldWrapper ws d, ∃ dd, w = .inline "" dd [] := by
  have members : ∀ (l : List Sel), ∀ w ∈ l.filterMap (fun w => if (dirsOf w).isEmpty then none else some (Sel.inline "" (dirsOf w) [])) ++
      (if d.isEmpty then [] else [Sel.inline "" d []]), ∃ dd, w = .inline "" dd [] := by
    intro l w hw
    rcases List.mem_append.1 hw with hw | hw
    · obtain ⟨x, _, hx⟩ := List.mem_filterMap.1 hw
      split at hx
      · cases hx
      · cases hx; exact ⟨_, rfl⟩
    · split at hw
      · cases hw
      · exact ⟨d, List.mem_singleton.1 hw⟩
  cases ws with
  | nil => simpa only [fieldWrapper, List.length_nil, List.drop_zero, List.nil_append] using members []
  | cons w ws' =>
    simpa only [fieldWrapper, inlineOnly_iff.1 h w (List.mem_cons_self ..), if_true, List.length_nil, List.drop_zero,
      List.nil_append] using members (w :: ws')

theorem inlineOnly_fieldWrapper (ws : List Sel) (d : List Dir) (h : inlineOnly ws = true) :
    inlineOnly (fieldWrapper ws d) = true :=
  inlineOnly_iff.2 fun w hw => by obtain ⟨_, rfl⟩ := fieldWrapper_untyped ws d h w hw; rfl

/-- `inner` inside the inline fragments among the wrappers, outermost first -/
def nestIn : List Sel → List Sel → List Sel
  | [], inner => inner
  | .inline c d _ :: ws, inner => [.inline c d (nestIn ws inner)]
  | _ :: ws, inner => nestIn ws inner

theorem wrapNest_inlineOnly : ∀ (ws inner : List Sel) (defs : List FragDef), inlineOnly ws = true →
    wrapNest ws inner defs = .ok (nestIn ws inner, defs)
  | [], _, _, _ => rfl
  | .inline c d s :: ws, inner, defs, h => by
    simp only [wrapNest, nestIn, wrapNest_inlineOnly ws inner defs h]
  | .spread .. :: _, _, _, h => by simp [inlineOnly] at h
  | .field .. :: _, _, _, h => by simp [inlineOnly] at h

theorem wrapDefs_inlineOnly (T : String) : ∀ (ws : List Sel), inlineOnly ws = true → wrapDefs T ws = []
  | [], _ => rfl
  | .inline c d s :: ws, h => wrapDefs_inlineOnly T ws h
  | .spread .. :: _, h => by simp [inlineOnly] at h
  | .field .. :: _, h => by simp [inlineOnly] at h

/-- what `kickOff` queues a bundle with, when the wrappers are inline fragments -/
theorem wrapped_inlineOnly {cfg : Cfg} (hw : inlineOnly cfg.wrapper = true) (lfr : Buckets FragDef) (l : Loc) (ss : List Sel) :
    wrapped cfg lfr l ss = .ok (nestIn cfg.wrapper ss, lfr.get l) := by
  unfold wrapped
  split
  · rename_i he
    rw [show cfg.wrapper = [] by simpa using he]; rfl
  · rw [wrap, wrapDefs_inlineOnly _ _ hw, List.append_nil, wrapNest_inlineOnly _ _ _ hw]

theorem noSpreadL_nestIn : ∀ (ws inner : List Sel), noSpreadL (nestIn ws inner) = noSpreadL inner
  | [], _ => rfl
  | .inline c d s :: ws, inner => by simp only [nestIn, noSpreadL, noSpread, Bool.and_true, noSpreadL_nestIn ws inner]
  | .spread .. :: ws, inner => noSpreadL_nestIn ws inner
  | .field .. :: ws, inner => noSpreadL_nestIn ws inner

/-! ### what is bundled has no spreads either, nor has what the planner goes through itself -/

theorem grouped_noSpread {env : Env} {pl : Loc} {T : String} {sf : List FragDef} {sels : List Sel} {l : Loc} {x : Sel}
    (hns : noSpreadL sels = true) (h : GroupedAt env pl T sf sels l x) : noSpread x = true := by
  cases h with
  | field hm _ => exact noSpreadL_iff.1 hns _ hm
  | spread hm _ _ => exact noSpreadL_iff.1 hns _ hm
  | inline hm hp => exact noSpreadL_iff.2 fun s hs => noSpreadL_iff.1 (noSpreadL_iff.1 hns _ hm) s (hp.2 s hs).1

theorem current_noSpread {env : Env} {cfg : Cfg} {lf : Buckets Sel} {lfr : Buckets FragDef}
    (hg : group env cfg.loc cfg.parentType cfg.stepFrags cfg.sel ([], []) = .ok (lf, lfr)) (hns : noSpreadL cfg.sel = true) :
    ∀ s ∈ current cfg lf, noSpread s = true := by
  intro s hs
  rcases List.mem_append.1 hs with hs | hs
  · exact grouped_noSpread hns ((group_grouped hg).get s hs)
  · split at hs
    · rw [List.mem_singleton.1 hs]; rfl
    · cases hs

/-! ### invariants of the pending steps -/

/-- with inline-fragment wrappers: what holds of the pending steps and of every bundle for another location, nested in
    the wrappers, and is kept when steps at the same place are merged, holds after `kickOff` -/
theorem kickOff_forall {X : Payload → Prop} {cfg : Cfg} {lfr : Buckets FragDef} (hw : inlineOnly cfg.wrapper = true)
    (hm : ∀ o p, X o → X p → samePlace o p = true → X { o with sel := appendNew o.sel p.sel, frags := mergeFrags o.frags p.frags }) :
    ∀ (lf : Buckets Sel) (st st1 : St), kickOff cfg lfr lf st = .ok st1 →
      (∀ l ss, (l, ss) ∈ lf → l ≠ cfg.loc → X ⟨some cfg.step, l, cfg.parentType, cfg.ip, nestIn cfg.wrapper ss, lfr.get l⟩) →
      (∀ o ∈ st.queue, X o) → ∀ o ∈ st1.queue, X o := by
  refine kickOff_induct (fun _ _ h => h) (fun ss rest st st1 ih hnew => ih fun l ss h => hnew l ss (List.mem_cons_of_mem _ h)) ?_
  intro l ss rest st st1 ss' fr' hl hwr ih hnew hq
  rw [wrapped_inlineOnly hw] at hwr
  cases hwr
  have hp := hnew l ss (List.mem_cons_self ..) hl
  exact ih (fun l ss h => hnew l ss (List.mem_cons_of_mem _ h)) (addStep_forall hq hp fun o ho => hm o _ (hq o ho) hp)

/-- a configuration `extractSelection` is called with on a document without named fragments -/
def NoFrag (cfg : Cfg) : Prop := noSpreadL cfg.sel = true ∧ inlineOnly cfg.wrapper = true

/-- the recursive calls made for the selection `s` are made with configurations in `C` -/
def CallsIn (C : Cfg → Prop) (cfg : Cfg) (s : Sel) : Prop :=
  (∀ a n g gv d t sub, s = .field a n g gv d t sub → sub ≠ [] → C (cfg.below a d t sub)) ∧
  ∀ c d sub, s = .inline c d sub → C (cfg.inside c d sub)

theorem CallsIn.and {C C' : Cfg → Prop} {cfg : Cfg} {s : Sel} (h : CallsIn C cfg s) (h' : CallsIn C' cfg s) :
    CallsIn (fun c => C c ∧ C' c) cfg s :=
  ⟨fun a n g gv d t sub he hne => ⟨h.1 a n g gv d t sub he hne, h'.1 a n g gv d t sub he hne⟩,
   fun c d sub he => ⟨h.2 c d sub he, h'.2 c d sub he⟩⟩

theorem NoFrag.calls {env : Env} {cfg : Cfg} (hc : NoFrag cfg) {lf : Buckets Sel} {lfr : Buckets FragDef}
    (hg : group env cfg.loc cfg.parentType cfg.stepFrags cfg.sel ([], []) = .ok (lf, lfr)) {s : Sel} (hs : s ∈ current cfg lf) :
    CallsIn NoFrag cfg s := by
  have hsn := current_noSpread hg hc.1 s hs
  exact ⟨fun _ _ _ _ _ _ _ he _ => ⟨by rw [he] at hsn; exact hsn, inlineOnly_fieldWrapper _ _ hc.2⟩,
    fun _ _ _ he => ⟨by rw [he] at hsn; exact hsn, inlineOnly_append_inline _ _ _ _ hc.2⟩⟩

/-- the loop over the current selections keeps what holds of the pending steps, if the calls it makes do -/
theorem SelSteps.forall_queue {C : Cfg → Prop} {X : Payload → Prop} {R : Call} {cfg : Cfg} {localFrags : List FragDef}
    (hR : ∀ c st r st', R c st r st' → C c → (∀ o ∈ st.queue, X o) → ∀ o ∈ st'.queue, X o)
    {ss ss' : List Sel} {st st' : St} (h : SelSteps R cfg localFrags ss st ss' st')
    (hss : ∀ s ∈ ss, noSpread s = true ∧ CallsIn C cfg s) (hq : ∀ o ∈ st.queue, X o) : ∀ o ∈ st'.queue, X o := by
  induction h with
  | nil => exact hq
  | cons h1 _ ih =>
    refine ih (fun s h => hss s (List.mem_cons_of_mem _ h)) ?_
    obtain ⟨hsn, hf, hi⟩ := hss _ (List.mem_cons_self ..)
    cases h1 with
    | leaf => exact hq
    | field hne hr => exact (hR _ _ _ _ hr (hf _ _ _ _ _ _ _ rfl hne) hq :)
    | inline hr => exact hR _ _ _ _ hr (hi _ _ _ rfl) hq
    | spreadNew => cases hsn
    | spreadSame => cases hsn
    | spreadInline => cases hsn

/-- **an invariant of the pending steps** (documents without named fragments): let `C` be a class of configurations
    that the recursive calls stay in, `X` a property of pending steps that holds of every bundle kicked off from a
    configuration in `C` — nested in the wrappers — and is kept when steps at the same place are merged.  Then a call
    of `extractSelection` from a configuration in `C` keeps `X` of all pending steps. -/
theorem extract_forall_queue {env : Env} {C : Cfg → Prop} {X : Payload → Prop}
    (calls : ∀ {cfg lf lfr s}, NoFrag cfg → C cfg →
      group env cfg.loc cfg.parentType cfg.stepFrags cfg.sel ([], []) = .ok (lf, lfr) → s ∈ current cfg lf → CallsIn C cfg s)
    (kick : ∀ {cfg lf lfr l ss}, NoFrag cfg → C cfg →
      group env cfg.loc cfg.parentType cfg.stepFrags cfg.sel ([], []) = .ok (lf, lfr) → (l, ss) ∈ lf → l ≠ cfg.loc →
      X ⟨some cfg.step, l, cfg.parentType, cfg.ip, nestIn cfg.wrapper ss, lfr.get l⟩)
    (merge : ∀ o p, X o → X p → samePlace o p = true → X { o with sel := appendNew o.sel p.sel, frags := mergeFrags o.frags p.frags })
    {fuel : Nat} {cfg : Cfg} {st : St} {sel : List Sel} {st' : St} (h : extract env fuel cfg st = .ok (sel, st'))
    (hn : NoFrag cfg) (hc : C cfg) (hq : ∀ o ∈ st.queue, X o) : ∀ o ∈ st'.queue, X o := by
  refine extract_induct (motive := fun cfg st _ st' => NoFrag cfg ∧ C cfg → (∀ o ∈ st.queue, X o) → ∀ o ∈ st'.queue, X o)
    ?_ fuel cfg st sel st' h ⟨hn, hc⟩ hq
  intro cfg st lf lfr st1 sel st' hg hk hp ⟨hn, hc⟩ hq
  exact hp.forall_queue (C := fun c => NoFrag c ∧ C c) (fun _ _ _ _ h => h)
    (fun s hs => ⟨current_noSpread hg hn.1 s hs, (hn.calls hg hs).and (calls hn hc hg hs)⟩)
    (kickOff_forall hn.2 merge lf st st1 hk (fun l ss hm hl => kick hn hc hg hm hl) hq)

def QueueNoSpread (queue : List Payload) : Prop := ∀ p ∈ queue, noSpreadL p.sel = true

theorem appendNew_noSpread {source target : List Sel} (ht : noSpreadL target = true) (hs : noSpreadL source = true) :
    noSpreadL (appendNew target source) = true :=
  noSpreadL_iff.2 fun _ hx => (appendNew_mem hx).elim (noSpreadL_iff.1 ht _) (noSpreadL_iff.1 hs _)

/-- pending steps stay free of spreads -/
theorem extract_noSpread {env : Env} {fuel : Nat} {cfg : Cfg} {st : St} {sel : List Sel} {st' : St}
    (h : extract env fuel cfg st = .ok (sel, st')) (hns : noSpreadL cfg.sel = true) (hw : inlineOnly cfg.wrapper = true)
    (hq : QueueNoSpread st.queue) : QueueNoSpread st'.queue :=
  extract_forall_queue (C := fun _ => True) (X := fun p => noSpreadL p.sel = true)
    (fun _ _ _ _ => ⟨fun _ _ _ _ _ _ _ _ _ => trivial, fun _ _ _ _ => trivial⟩)
    (fun hn _ hg hm _ => (noSpreadL_nestIn _ _).trans (noSpreadL_iff.2 fun s hs => grouped_noSpread hn.1 (group_grouped hg _ _ hm s hs)))
    (fun _ _ ho hp _ => appendNew_noSpread ho hp) h ⟨hns, hw⟩ trivial hq

end Pl
