import GwModel.Exec.Machine
namespace ExecM

theorem mkPc_length (n f) : (mkPc n f).length = n := by simp [mkPc]

theorem mkPc_get (n : Nat) (f : Nat → Option Nat) (x : Nat) :
    ((mkPc n f)[x]?).getD none = if x < n then f x else none := by
  unfold mkPc
  by_cases h : x < n
  · simp [h]
  · simp [h]

variable {ts : Tasks}

theorem parentOf_lt (ts : Tasks) {c p : Nat} (h : parentOf ts c = some p) : c < ts.length := by
  unfold parentOf at h
  by_cases hc : c < ts.length
  · exact hc
  · simp [List.getElem?_eq_none (Nat.le_of_not_lt hc)] at h

theorem isKid_iff {t c : Nat} : isKid ts t c = true ↔ parentOf ts c = some t := by simp [isKid]

theorem pcOf_of_ge {s : St} {x : Nat} (h : s.pc.length ≤ x) : pcOf s x = none := by
  simp [pcOf, List.getD_eq_getElem?_getD, List.getElem?_eq_none h]

theorem pcOf_of_pc {s : St} {n : Nat} {f : Nat → Option Nat} (h : s.pc = mkPc n f) (x : Nat) :
    pcOf s x = if x < n then f x else none := by
  rw [pcOf, h, List.getD_eq_getElem?_getD]; exact mkPc_get n f x

/-- The state after the `k`-th effect of task `t`, for all three effects at once: each advances `t`'s pc; the
    first (`k = 0`, `addSt`) counts the children into the wait-group, the second (`pubSt`) publishes `t`, the
    third (`spawnSt`) starts the children.  `step` under the safe order yields exactly these (`step_iff`). -/
def effSt (ts : Tasks) (s : St) (t k : Nat) : St :=
  { s with pc := mkPc ts.length fun x =>
             if x = t then some (k+1) else if k = 2 ∧ isKid ts t x then some 0 else pcOf s x
           queue := if k = 1 then s.queue ++ [t] else s.queue
           wg := if k = 0 then s.wg + (kids ts t).length else s.wg }

theorem addSt_eq (s : St) (t : Nat) : addSt ts s t 0 = effSt ts s t 0 := rfl
theorem pubSt_eq (s : St) (t : Nat) : pubSt ts s t 1 = effSt ts s t 1 := rfl
theorem spawnSt_eq (s : St) (t : Nat) : spawnSt ts s t 2 = effSt ts s t 2 := by
  simp [spawnSt, effSt]

theorem pcOf_effSt {s : St} {t : Nat} (hl : s.pc.length = ts.length) (ht : t < ts.length) (k x : Nat) :
    pcOf (effSt ts s t k) x =
      if x = t then some (k+1) else if k = 2 ∧ isKid ts t x then some 0 else pcOf s x := by
  rw [pcOf_of_pc (s := effSt ts s t k) rfl]
  split
  · rfl
  · rename_i hx
    have hxl : ts.length ≤ x := Nat.le_of_not_lt hx
    have h1 : x ≠ t := by omega
    have h2 : ¬ (k = 2 ∧ isKid ts t x = true) := fun h => hx (parentOf_lt ts (isKid_iff.1 h.2))
    rw [if_neg h1, if_neg h2, pcOf_of_ge (hl ▸ hxl)]

/-- every task of `l` that has a parent comes after it (`Inv.resp`, `order_respectful`) -/
def ParentFirst (ts : Tasks) (l : List Nat) : Prop :=
  ∀ l₁ c l₂, l = l₁ ++ c :: l₂ → ∀ p, parentOf ts c = some p → p ∈ l₁

theorem ParentFirst.prefix {l m : List Nat} (h : ParentFirst ts (l ++ m)) : ParentFirst ts l :=
  fun l₁ c l₂ e => h l₁ c (l₂ ++ m) (by rw [e]; simp)

theorem ParentFirst.snoc {l : List Nat} {t : Nat} (h : ParentFirst ts l)
    (ht : ∀ p, parentOf ts t = some p → p ∈ l) : ParentFirst ts (l ++ [t]) := by
  intro l₁ c l₂ e p hcp
  rcases List.eq_nil_or_concat l₂ with rfl | ⟨l₂', b, rfl⟩
  · obtain ⟨h1, h2⟩ := List.append_inj' (e : _ = l₁ ++ [c]) rfl
    cases h2; exact h1 ▸ ht p hcp
  · have e' : l ++ [t] = (l₁ ++ c :: l₂') ++ [b] := by rw [e]; simp
    exact h l₁ c l₂' (List.append_inj' e' rfl).1 p hcp

theorem countP_or_disjoint {α} (p q : α → Bool) :
    ∀ (l : List α), (∀ x ∈ l, ¬ (p x = true ∧ q x = true)) →
      l.countP (fun x => p x || q x) = l.countP p + l.countP q
  | [], _ => rfl
  | a :: l, h => by
    have ih := countP_or_disjoint p q l (fun x hx => h x (List.mem_cons_of_mem _ hx))
    have ha := h a (List.mem_cons_self ..)
    rw [List.countP_cons, List.countP_cons, List.countP_cons, ih]
    cases hp : p a <;> cases hq : q a <;> simp only [hp, hq, true_and, not_true] at ha ⊢ <;> simp <;> omega

end ExecM
