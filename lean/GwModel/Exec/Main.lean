import GwModel.Exec.Preserve
namespace ExecM

variable {cfg : Cfg} {ts : Tasks}

theorem inv_step (hs : cfg.Safe) (hwf : WF ts) {s s' : St} {a : Act} (hi : Inv ts s)
    (h : step cfg ts s a = some s') : Inv ts s' := by
  cases (step_iff hs hi).1 h with
  | eff hp hk hr _ => exact inv_eff hwf hi hp hk hr
  | recv hh hq => exact inv_recv hi hh hq
  | done hh => exact inv_done hi hh
  | ret hw _ => exact inv_ret hwf hi hw

theorem inv_reach (hs : cfg.Safe) (hwf : WF ts) {s : St} (hr : Reach cfg ts s) : Inv ts s := by
  induction hr with
  | init => exact inv_init ts hwf
  | step _ h ih => exact inv_step hs hwf ih h

/-! ### Headline corollaries -/

/-- C06/C07: no panic (negative WaitGroup, send on closed channel) is reachable -/
theorem no_crash (hs : cfg.Safe) (hwf : WF ts) {s : St} (hr : Reach cfg ts s) : s.crashed = false :=
  (inv_reach hs hwf hr).noCrash

/-- C06: `Execute` returns only after every task's result has been merged -/
theorem returns_after_all_merged (hs : cfg.Safe) (hwf : WF ts) {s : St} (hr : Reach cfg ts s)
    (hret : s.returned = true) : ∀ t, t < ts.length → t ∈ s.order ∧ s.held ≠ some t := by
  intro t ht
  exact doneT_iff.1 ((inv_reach hs hwf hr).ret hret t ht)

/-- C05: results are merged parent-first, each at most once -/
theorem order_respectful (hs : cfg.Safe) (hwf : WF ts) {s : St} (hr : Reach cfg ts s) :
    s.order.Nodup ∧ ∀ l₁ c l₂, s.order = l₁ ++ c :: l₂ → ∀ p, parentOf ts c = some p → p ∈ l₁ := by
  have hi := inv_reach hs hwf hr
  exact ⟨(List.nodup_append.1 hi.nodup).1, ParentFirst.prefix hi.resp⟩

/-- C06: deadlock freedom — some action is enabled until `Execute` has returned -/
theorem deadlock_free (hs : cfg.Safe) (hwf : WF ts) {s : St} (hr : Reach cfg ts s)
    (hnr : s.returned = false) : ∃ a s', step cfg ts s a = some s' := by
  have hi := inv_reach hs hwf hr
  have enabled : ∀ {a s'}, Step cfg ts s a s' → ∃ a s', step cfg ts s a = some s' :=
    fun h => ⟨_, _, (step_iff hs hi).2 h⟩
  cases hh : s.held with
  | some t => exact enabled (.done hh)
  | none =>
    cases hq : s.queue with
    | cons t q => exact enabled (.recv hh hq)
    | nil =>
      by_cases hw : s.wg = 0
      · exact enabled (.ret hw hnr)
      · -- a pending task is not yet published: its next effect, or its parent's, is enabled
        have hpos : 0 < (List.range ts.length).countP (pending ts s) := by
          have := hi.wg_eq_pending; omega
        obtain ⟨t, ht, hpt⟩ := List.countP_pos_iff.1 hpos
        have htl := List.mem_range.1 ht
        simp only [pending, Bool.and_eq_true, Bool.not_eq_true', doneT, hh, Bool.and_eq_false_imp] at hpt
        have eff : ∀ {u k}, pcOf s u = some k → k < 3 → ∃ a s', step cfg ts s a = some s' :=
          fun hk hk3 => enabled (.eff hk hk3 (fun _ => hnr) (fun _ => by rw [hq]; exact hs.cap))
        have hto : t ∉ s.order := fun h => by simp [h] at hpt
        cases hk : pcOf s t with
        | some k =>
          refine eff hk (Nat.lt_of_not_le fun h3 => hto ?_)
          simpa [hq] using (hi.pubd t).1 ⟨k, hk, by omega⟩
        | none =>
          cases hp : parentOf ts t with
          | none => exact absurd hk (hi.roots t htl hp)
          | some p =>
            have hc := hpt.1
            rw [counted_child hp] at hc
            cases hpp : pcOf s p with
            | none => simp [hpp] at hc
            | some k =>
              have hk3 : k ≠ 3 := fun h3 => (hi.spawned t p hp htl).2 (h3 ▸ hpp) hk
              have := (hi.bound p k hpp).1
              exact eff hpp (by omega)

#print axioms no_crash
#print axioms returns_after_all_merged
#print axioms order_respectful
#print axioms deadlock_free

end ExecM
