import GwModel.Exec.Inv
namespace ExecM
variable {cfg : Cfg} {ts : Tasks} {s : St}

namespace Inv
variable (hi : Inv ts s)
include hi

theorem of_seq {t : Nat} (h : t ∈ s.order ++ s.queue) : ∃ k, pcOf s t = some k ∧ 2 ≤ k ∧ t < ts.length :=
  let ⟨k, hk, h2⟩ := (hi.pubd t).2 h
  ⟨k, hk, h2, (hi.bound t k hk).2⟩

theorem lt_of_seq {t : Nat} (h : t ∈ s.order ++ s.queue) : t < ts.length :=
  let ⟨_, _, _, h⟩ := hi.of_seq h; h

/-- the task at the head of the queue has not been merged -/
theorem head_not_merged {t : Nat} {q : List Nat} (hq : s.queue = t :: q) : t ∉ s.order := fun h =>
  (List.nodup_append.1 (hq ▸ hi.nodup)).2.2 t h t (List.mem_cons_self ..) rfl

theorem not_seq_of_pc {t k : Nat} (h : pcOf s t = some k) (hk : k < 2) : t ∉ s.order ++ s.queue := by
  intro hm
  obtain ⟨k', hk', h2, _⟩ := hi.of_seq hm
  rw [h] at hk'; cases hk'; omega

theorem no_early_effect (hr : s.returned = true) {t k : Nat} (hp : pcOf s t = some k) (hk : k < 2) : False :=
  hi.not_seq_of_pc hp hk
    (List.mem_append_left _ (doneT_iff.1 (hi.ret hr t (hi.bound t k hp).2)).1)
theorem kid_none {t c k : Nat} (hk : parentOf ts c = some t) (hp : pcOf s t = some k) (h3 : k ≠ 3) :
    pcOf s c = none := by
  cases hcn : pcOf s c with
  | none => rfl
  | some j =>
    have := (hi.spawned c t hk (parentOf_lt ts hk)).1 (by rw [hcn]; simp)
    rw [hp] at this; cases this; exact absurd rfl h3

/-- a started task is counted: its parent has run all three effects -/
theorem counted_of_started {c : Nat} (hc : c < ts.length) (h : pcOf s c ≠ none) : counted ts s c = true := by
  cases hp : parentOf ts c with
  | none => exact counted_root hp
  | some p => rw [counted_child hp, (hi.spawned c p hp hc).1 h]; rfl

theorem done_counted {c : Nat} (hc : c < ts.length) (hd : doneT s c = true) : counted ts s c = true := by
  obtain ⟨k, hk, _⟩ := hi.of_seq (List.mem_append_left _ (doneT_iff.1 hd).1)
  exact hi.counted_of_started hc (by rw [hk]; simp)

end Inv

/-- the tasks the wait-group is waiting for: counted and not yet acknowledged -/
def pending (ts : Tasks) (s : St) (c : Nat) : Bool := counted ts s c && !doneT s c

/-- the wait-group counter is the number of pending tasks -/
theorem Inv.wg_eq_pending (hi : Inv ts s) : s.wg = ((List.range ts.length).countP (pending ts s) : Nat) := by
  have : nCounted ts s = (List.range ts.length).countP (pending ts s) + nDone ts s := by
    unfold nCounted nDone
    rw [← countP_or_disjoint]
    · refine List.countP_congr fun c hc => ?_
      have := hi.done_counted (List.mem_range.1 hc)
      unfold pending
      cases hd : doneT s c
      · simp
      · simp [this hd]
    · intro c _ ⟨h1, h2⟩
      rw [pending, h2] at h1
      simp at h1
  rw [hi.wgEq, this]; omega

/-- The steps of a safely configured machine from a state in which the invariant holds. -/
inductive Step (cfg : Cfg) (ts : Tasks) (s : St) : Act → St → Prop
  | eff {t k : Nat} : pcOf s t = some k → k < 3 → (k < 2 → s.returned = false) →
      (k = 1 → s.queue.length < cfg.cap) → Step cfg ts s (.eff t) (effSt ts s t k)
  | recv {t : Nat} {q : List Nat} : s.held = none → s.queue = t :: q → Step cfg ts s .recv (recvSt s t q)
  | done {t : Nat} : s.held = some t → Step cfg ts s .done (doneSt ts s t)
  | ret : s.wg = 0 → s.returned = false → Step cfg ts s .ret { s with returned := true }

theorem step_iff (hs : cfg.Safe) (hi : Inv ts s) {a : Act} {s' : St} :
    step cfg ts s a = some s' ↔ Step cfg ts s a s' := by
  constructor
  · intro h
    cases a with
    | eff t =>
      simp only [step, hs.order] at h
      cases hp : pcOf s t with
      | none => simp [hp] at h
      | some k =>
        have hnr : k < 2 → s.returned = false := fun hk => by
          cases hr : s.returned with
          | false => rfl
          | true => exact (hi.no_early_effect hr hp hk).elim
        simp only [hp] at h
        obtain _ | _ | _ | k := k
        · simp [safeOrder, hnr] at h
          exact h ▸ addSt_eq s t ▸ .eff hp (by omega) hnr (by omega)
        · simp [safeOrder, hnr] at h
          exact h.2 ▸ pubSt_eq s t ▸ .eff hp (by omega) hnr (fun _ => h.1)
        · simp [safeOrder] at h
          exact h ▸ spawnSt_eq s t ▸ .eff hp (by omega) hnr (by omega)
        · simp [safeOrder] at h
    | recv =>
      simp only [step] at h
      split at h
      · rename_i hh hq; cases h; exact .recv hh hq
      · cases h
    | done =>
      simp only [step, hs.noSelfSend, Bool.and_false] at h
      split at h
      · cases h
      · rename_i hh; cases h; exact .done hh
    | recvErr =>
      simp only [step, hi.errQ] at h
      split at h
      · rename_i hq; cases hq
      · cases h
    | ret =>
      simp only [step] at h
      split at h
      · rename_i hc; cases h; exact .ret hc.1 hc.2
      · cases h
  · intro h
    cases h with
    | @eff t k hp hk hr hq =>
      obtain _ | _ | _ | k := k
      · simp [step, hp, hs.order, safeOrder, hr, addSt_eq]
      · simp [step, hp, hs.order, safeOrder, hr, hq, pubSt_eq]
      · simp [step, hp, hs.order, safeOrder, spawnSt_eq]
      · omega
    | recv hh hq => simp [step, hh, hq]
    | done hh => simp [step, hh, hs.noSelfSend]
    | ret hw hr => simp [step, hw, hr]

end ExecM
