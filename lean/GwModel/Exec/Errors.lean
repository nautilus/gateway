import GwModel.Exec.Confluence
namespace ExecM

variable {cfg : Cfg} {ts : Tasks}

/-- pending error of the result the collector is holding -/
def heldErr (ts : Tasks) (s : St) : List Nat :=
  match s.held with
  | some t => if failedOf ts t then [t] else []
  | none => []

def ErrInv (ts : Tasks) (s : St) : Prop :=
  s.errs ++ heldErr ts s = s.order.filter (failedOf ts)

theorem errInv_init : ErrInv ts (init ts) := by simp [ErrInv, init, heldErr]

theorem errInv_step (hs : cfg.Safe) (hwf : WF ts) {s s' : St} {a : Act} (hr : Reach cfg ts s)
    (he : ErrInv ts s) (h : step cfg ts s a = some s') : ErrInv ts s' := by
  unfold ErrInv at he ⊢
  cases (step_iff hs (inv_reach hs hwf hr)).1 h with
  | eff => exact he
  | @recv t q hh _ =>
    simp only [heldErr, hh, List.append_nil] at he
    simp only [recvSt, heldErr, List.filter_append, he]
    by_cases hf : failedOf ts t = true <;> simp [hf]
  | @done t hh =>
    simp only [heldErr, hh] at he
    simp only [doneSt, heldErr, List.append_nil]
    by_cases hf : failedOf ts t = true
    · simp only [hf, if_true] at he ⊢; exact he
    · simp only [hf] at he ⊢; simpa using he
  | ret => exact he

theorem errInv_reach (hs : cfg.Safe) (hwf : WF ts) {s : St} (hr : Reach cfg ts s) : ErrInv ts s := by
  induction hr with
  | init => exact errInv_init
  | step hr' h ih => exact errInv_step hs hwf hr' ih h

/-- whenever the collector holds nothing, the error list is the failed calls in the order they were merged -/
theorem errs_eq_of_idle (hs : cfg.Safe) (hwf : WF ts) {s : St} (hr : Reach cfg ts s) (hh : s.held = none) :
    s.errs = s.order.filter (failedOf ts) := by
  have he := errInv_reach hs hwf hr
  unfold ErrInv at he
  simpa only [heldErr, hh, List.append_nil] using he

/-- **C07 (abstract form).** At return the error list holds exactly the failed calls, each once,
    whatever the schedule: it is a permutation of the failed tasks of the forest. -/
theorem errors_exact (hs : cfg.Safe) (hwf : WF ts) {s : St} (hr : Reach cfg ts s)
    (hret : s.returned = true) :
    s.errs.Perm ((List.range ts.length).filter (failedOf ts)) := by
  have hi := inv_reach hs hwf hr
  have hheld : s.held = none := by
    cases hh : s.held with
    | none => rfl
    | some t =>
      exact absurd hh (returns_after_all_merged hs hwf hr hret t
        (hi.lt_of_seq (List.mem_append_left _ (hi.held t hh)))).2
  rw [errs_eq_of_idle hs hwf hr hheld]
  refine List.Perm.filter _ ((List.perm_ext_iff_of_nodup (order_respectful hs hwf hr).1 List.nodup_range).2 fun t => ?_)
  rw [order_complete hs hwf hr hret, List.mem_range]

#print axioms errors_exact

/-! ### The hypotheses of `Safe` are necessary: concrete bad runs for each violated clause -/

def two : Tasks := [{ parent := none, failed := false }, { parent := some 0, failed := false }]

/-- `resultCh <-` before `stepWg.Add`: `Execute` can return before the child was even started -/
theorem early_return_if_publish_before_add :
    let cfg : Cfg := { cap := 10, errCap := 10, selfSend := false, order := [.pub, .add, .spawn] }
    (run cfg two (init two) [.eff 0, .recv, .done, .ret]).map
      (fun s => (s.returned, pcOf s 1)) = some (true, none) := by decide

/-- children spawned before the parent publishes: the child's result can be merged first -/
theorem child_first_if_spawn_before_publish :
    let cfg : Cfg := { cap := 10, errCap := 10, selfSend := false, order := [.add, .spawn, .pub] }
    (run cfg two (init two) [.eff 0, .eff 0, .eff 1, .eff 1, .eff 1, .recv]).map
      (fun s => s.order) = some [1] := by decide

end ExecM
