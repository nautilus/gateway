import GwModel.Exec.Main
namespace ExecM

variable {cfg : Cfg} {ts : Tasks}

def effLeft (s : St) (t : Nat) : Nat :=
  match pcOf s t with
  | none => 3
  | some k => 3 - k

def sumUpTo (f : Nat → Nat) : Nat → Nat
  | 0 => 0
  | n+1 => sumUpTo f n + f n

theorem sumUpTo_congr {f g : Nat → Nat} : ∀ n, (∀ x, x < n → f x = g x) → sumUpTo f n = sumUpTo g n
  | 0, _ => rfl
  | n+1, h => by
    simp only [sumUpTo]
    rw [sumUpTo_congr n (fun x hx => h x (Nat.lt_succ_of_lt hx)), h n (Nat.lt_succ_self n)]

/-- lowering `f` at exactly one index below `n` lowers the sum by the same amount -/
theorem sumUpTo_dec {f g : Nat → Nat} {t d : Nat} :
    ∀ n, t < n → (∀ x, x ≠ t → g x = f x) → g t + d = f t → sumUpTo g n + d = sumUpTo f n
  | 0, h, _, _ => by cases h
  | n+1, h, hne, ht => by
    simp only [sumUpTo]
    by_cases htn : t = n
    · subst htn
      rw [sumUpTo_congr t (fun x hx => hne x (by omega))]
      omega
    · have := sumUpTo_dec n (by omega) hne ht
      rw [hne n (fun h => htn h.symm)]
      omega

def notRecv (s : St) (t : Nat) : Nat := if t ∈ s.order then 0 else 2

/-- number of actions still to happen -/
def mu (ts : Tasks) (s : St) : Nat :=
  sumUpTo (effLeft s) ts.length + sumUpTo (notRecv s) ts.length
    + (if s.held.isSome then 1 else 0) + (if s.returned then 0 else 1)

/-- every action uses up exactly one unit of the measure: an effect one unit of `effLeft` of its task, a receive the 2 of
    `notRecv` of the task received (and sets `held`, which the acknowledgement clears again) -/
theorem mu_step (hs : cfg.Safe) (hwf : WF ts) {s s' : St} {a : Act} (hr : Reach cfg ts s)
    (h : step cfg ts s a = some s') : mu ts s' + 1 = mu ts s := by
  have hi := inv_reach hs hwf hr
  unfold mu
  cases (step_iff hs hi).1 h with
  | @eff t k hp hk _ _ =>
    have htl := (hi.bound t k hp).2
    have : sumUpTo (effLeft (effSt ts s t k)) ts.length + 1 = sumUpTo (effLeft s) ts.length := by
      refine sumUpTo_dec _ htl (fun x hx => ?_) ?_
      · unfold effLeft
        rw [pcOf_effSt hi.len htl, if_neg hx]
        by_cases hkid : k = 2 ∧ isKid ts t x = true
        · rw [if_pos hkid, hi.kid_none (isKid_iff.1 hkid.2) hp (by omega)]
        · rw [if_neg hkid]
      · unfold effLeft
        rw [pcOf_effSt hi.len htl, if_pos rfl, hp]
        show 3 - (k + 1) + 1 = 3 - k
        omega
    show _ + sumUpTo (notRecv s) ts.length + (if s.held.isSome then 1 else 0)
      + (if s.returned then 0 else 1) + 1 = _
    omega
  | @recv t q hh hq =>
    have : sumUpTo (notRecv (recvSt s t q)) ts.length + 2 = sumUpTo (notRecv s) ts.length := by
      refine sumUpTo_dec _ (hi.lt_of_seq (t := t) (by simp [hq])) (fun x hx => ?_) ?_
      · simp [notRecv, recvSt, hx]
      · simp [notRecv, recvSt, hi.head_not_merged hq]
    show sumUpTo (effLeft s) ts.length + _ + 1 + (if s.returned then 0 else 1) + 1 = _
    rw [hh]; simp; omega
  | @done t hh =>
    show sumUpTo (effLeft s) ts.length + sumUpTo (notRecv s) ts.length + 0
      + (if s.returned then 0 else 1) + 1 = _
    rw [hh]; simp; omega
  | ret _ hnr =>
    show sumUpTo (effLeft s) ts.length + sumUpTo (notRecv s) ts.length
      + (if s.held.isSome then 1 else 0) + 0 + 1 = _
    rw [hnr]; simp

/-- C06: every schedule is finite — at most `mu (init)` = 5·n + 1 actions -/
theorem run_length_bounded (hs : cfg.Safe) (hwf : WF ts) :
    ∀ (as : List Act) {s s' : St}, Reach cfg ts s → run cfg ts s as = some s' → as.length + mu ts s' ≤ mu ts s
  | [], s, s', _, h => by simp [run] at h; subst h; simp
  | a :: as, s, s', hr, h => by
    simp only [run] at h
    cases hst : step cfg ts s a with
    | none => simp [hst] at h
    | some s₁ =>
      simp only [hst, Option.bind_some] at h
      have := run_length_bounded hs hwf as (Reach.step hr hst) h
      have := mu_step hs hwf hr hst
      simp; omega

#print axioms run_length_bounded
end ExecM
