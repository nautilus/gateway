/-! Abstract confluence of folds over ancestor-respecting orders. -/
namespace ExecM
variable {M S : Type}

/-- ancestors come first: nothing after `a` is an ancestor of `a` -/
def Respectful (anc : M → M → Prop) : List M → Prop
  | [] => True
  | a :: l => (∀ b ∈ l, ¬ anc b a) ∧ Respectful anc l

theorem respectful_iff_pairwise {anc : M → M → Prop} :
    ∀ {l : List M}, Respectful anc l ↔ l.Pairwise fun a b => ¬ anc b a
  | [] => by simp [Respectful]
  | a :: l => by rw [Respectful, List.pairwise_cons, respectful_iff_pairwise (l := l)]

theorem Respectful.erase_mid {anc : M → M → Prop} :
    ∀ {l₁ : List M} {a : M} {l₂ : List M}, Respectful anc (l₁ ++ a :: l₂) → Respectful anc (l₁ ++ l₂) :=
  fun h => respectful_iff_pairwise.2
    ((respectful_iff_pairwise.1 h).sublist ((List.sublist_cons_self _ _).append_left _))

theorem Respectful.not_anc_of_before {anc : M → M → Prop} :
    ∀ {p : List M} {a : M} {q : List M}, Respectful anc (p ++ a :: q) → ∀ b ∈ p, ¬ anc a b :=
  fun h b hb => (List.pairwise_append.1 (respectful_iff_pairwise.1 h)).2.2 b hb _ (List.mem_cons_self ..)

theorem bubble (ins : S → M → S) (anc : M → M → Prop)
    (comm : ∀ s a b, ¬ anc a b → ¬ anc b a → ins (ins s a) b = ins (ins s b) a) :
    ∀ (l₁ : List M) (a : M) (l₂ : List M) (s : S),
      (∀ b ∈ l₁, ¬ anc b a) → (∀ b ∈ l₁, ¬ anc a b) →
      (l₁ ++ a :: l₂).foldl ins s = (a :: (l₁ ++ l₂)).foldl ins s
  | [], _, _, _, _, _ => rfl
  | b :: l₁, a, l₂, s, h1, h2 => by
    have ih := bubble ins anc comm l₁ a l₂ (ins s b) (fun c hc => h1 c (List.mem_cons_of_mem _ hc))
      (fun c hc => h2 c (List.mem_cons_of_mem _ hc))
    simp only [List.cons_append, List.foldl_cons] at ih ⊢
    rw [ih, comm s b a (h1 b (List.mem_cons_self ..)) (h2 b (List.mem_cons_self ..))]

theorem confluent (ins : S → M → S) (anc : M → M → Prop)
    (comm : ∀ s a b, ¬ anc a b → ¬ anc b a → ins (ins s a) b = ins (ins s b) a) :
    ∀ (l₁ l₂ : List M) (s : S), l₁.Perm l₂ → l₁.Nodup →
      Respectful anc l₁ → Respectful anc l₂ → l₁.foldl ins s = l₂.foldl ins s
  | [], l₂, s, hp, _, _, _ => by
    have : l₂ = [] := hp.symm.eq_nil
    subst this; rfl
  | a :: l₁, l₂, s, hp, hnd, hr1, hr2 => by
    have ha : a ∈ l₂ := hp.subset (List.mem_cons_self ..)
    obtain ⟨p, q, rfl⟩ := List.append_of_mem ha
    have hperm : l₁.Perm (p ++ q) := by
      have := hp.trans (List.perm_middle (a := a) (l₁ := p) (l₂ := q))
      exact (List.perm_cons a).1 this
    have hnd' := List.nodup_cons.1 hnd
    have hp_sub : ∀ b ∈ p, b ∈ l₁ := fun b hb =>
      hperm.symm.subset (List.mem_append.2 (Or.inl hb))
    have h1 : ∀ b ∈ p, ¬ anc b a := fun b hb => hr1.1 b (hp_sub b hb)
    have h2 : ∀ b ∈ p, ¬ anc a b := Respectful.not_anc_of_before hr2
    rw [bubble ins anc comm p a q s h1 h2]
    simp only [List.foldl_cons]
    exact confluent ins anc comm l₁ (p ++ q) (ins s a) hperm hnd'.2 hr1.2 (Respectful.erase_mid hr2)


end ExecM
