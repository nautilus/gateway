import GwModel.Exec.Basic
namespace ExecM

variable (ts : Tasks)

def counted (s : St) (c : Nat) : Bool :=
  match parentOf ts c with
  | none => true
  | some p => (pcOf s p).any (fun k => decide (1 ≤ k))

def doneT (s : St) (c : Nat) : Bool := decide (c ∈ s.order) && !(s.held == some c)

def nCounted (s : St) : Nat := (List.range ts.length).countP (counted ts s)
def nDone (s : St) : Nat := (List.range ts.length).countP (doneT s)

structure Inv (s : St) : Prop where
  len    : s.pc.length = ts.length
  bound  : ∀ t k, pcOf s t = some k → k ≤ 3 ∧ t < ts.length
  pubd   : ∀ t, (∃ k, pcOf s t = some k ∧ 2 ≤ k) ↔ t ∈ s.order ++ s.queue
  nodup  : (s.order ++ s.queue).Nodup
  held   : ∀ t, s.held = some t → t ∈ s.order
  heldLast : ∀ t, s.held = some t → ∀ u ∈ s.order, u ≠ t → True
  spawned : ∀ c p, parentOf ts c = some p → c < ts.length → (pcOf s c ≠ none ↔ pcOf s p = some 3)
  roots  : ∀ c, c < ts.length → parentOf ts c = none → pcOf s c ≠ none
  wgEq   : s.wg = (nCounted ts s : Int) - (nDone ts s : Int)
  noCrash : s.crashed = false
  errQ   : s.errQ = []
  ret    : s.returned = true → ∀ t, t < ts.length → doneT s t = true
  resp   : ∀ l₁ c l₂, s.order ++ s.queue = l₁ ++ c :: l₂ → ∀ p, parentOf ts c = some p → p ∈ l₁

section
variable {ts} {s : St}

theorem counted_root {c : Nat} (h : parentOf ts c = none) : counted ts s c = true := by
  rw [counted, h]

theorem counted_child {c p : Nat} (h : parentOf ts c = some p) :
    counted ts s c = (pcOf s p).any fun k => decide (1 ≤ k) := by
  rw [counted, h]

theorem ge_some {m n : Nat} : (∃ j, some m = some j ∧ n ≤ j) ↔ n ≤ m :=
  ⟨fun ⟨_, h, hj⟩ => Option.some.inj h ▸ hj, fun h => ⟨m, rfl, h⟩⟩

theorem doneT_iff {c : Nat} : doneT s c = true ↔ c ∈ s.order ∧ s.held ≠ some c := by
  simp [doneT]

end

theorem pcOf_init (c : Nat) :
    pcOf (init ts) c = if c < ts.length then (if isRoot ts c then some 0 else none) else none :=
  pcOf_of_pc (s := init ts) rfl c

theorem inv_init (hwf : WF ts) : Inv ts (init ts) := by
  refine
    { len := by simp [init, mkPc_length]
      bound := ?_, pubd := ?_, nodup := by simp [init], held := by simp [init]
      heldLast := by intros; trivial
      spawned := ?_, roots := ?_, wgEq := ?_, noCrash := rfl, errQ := rfl
      ret := by simp [init], resp := ?_ }
  · intro t k h
    rw [pcOf_init] at h
    split at h
    · rename_i hlt
      split at h
      · cases h; exact ⟨by omega, hlt⟩
      · cases h
    · cases h
  · intro t
    constructor
    · rintro ⟨k, h, hk⟩
      rw [pcOf_init] at h
      split at h
      · split at h
        · cases h; omega
        · cases h
      · cases h
    · intro h; simp [init] at h
  · intro c p hp hc
    have hpl : p < ts.length := Nat.lt_trans (hwf c p hp) hc
    rw [pcOf_init, pcOf_init]
    simp only [hc, hpl, if_true]
    have : isRoot ts c = false := by simp [isRoot, hp]
    simp [this]
  · intro c hc hp
    rw [pcOf_init]
    simp [hc, isRoot, hp]
  · -- wg
    have h1 : nDone ts (init ts) = 0 := by
      simp [nDone, doneT, init]
    have h2 : nCounted ts (init ts) = ((List.range ts.length).filter (isRoot ts)).length := by
      unfold nCounted
      rw [← List.countP_eq_length_filter]
      apply List.countP_congr
      intro c hc
      have hc' : c < ts.length := by simpa using hc
      unfold counted isRoot
      cases hp : parentOf ts c with
      | none => simp
      | some p =>
        have hpl : p < ts.length := Nat.lt_trans (hwf c p hp) hc'
        simp only [pcOf_init ts p, hpl, if_true]
        split <;> simp
    rw [h1, h2]
    simp [init]
  · intro l₁ c l₂ h
    simp [init] at h
