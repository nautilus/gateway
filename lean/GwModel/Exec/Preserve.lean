import GwModel.Exec.Step
namespace ExecM

variable {cfg : Cfg} {ts : Tasks} {s : St}

/-- `counted` looks at the pc of the parent only, and there only at whether it is at least 1 -/
theorem counted_eff (hi : Inv ts s) {t k : Nat} (hp : pcOf s t = some k) (hk : k < 3) (c : Nat) :
    counted ts (effSt ts s t k) c = (counted ts s c || (decide (k = 0) && isKid ts t c)) := by
  cases hcp : parentOf ts c with
  | none => rw [counted_root hcp, counted_root hcp]; rfl
  | some p =>
    rw [counted_child hcp, counted_child hcp, pcOf_effSt hi.len (hi.bound t k hp).2]
    by_cases hpt : p = t
    · subst hpt
      rw [if_pos rfl, hp, isKid_iff.2 hcp]
      cases k <;> simp
    · have : isKid ts t c = false := by simp [isKid, hcp, hpt]
      rw [if_neg hpt, this, Bool.and_false, Bool.or_false]
      split
      · rename_i h; rw [hi.kid_none (isKid_iff.1 h.2) hp (by omega)]; rfl
      · rfl

theorem nCounted_eff (hi : Inv ts s) {t k : Nat} (hp : pcOf s t = some k) (hk : k < 3) :
    nCounted ts (effSt ts s t k) = nCounted ts s + if k = 0 then (kids ts t).length else 0 := by
  unfold nCounted
  rw [List.countP_congr (fun c _ => by rw [counted_eff hi hp hk c]), countP_or_disjoint]
  · congr 1
    split
    · rename_i h0; subst h0; simp [kids, List.countP_eq_length_filter]
    · rename_i h0; simp [h0]
  · intro c _ ⟨h1, h2⟩
    simp only [Bool.and_eq_true, decide_eq_true_eq] at h2
    rw [counted_child (isKid_iff.1 h2.2), hp, h2.1] at h1
    cases h1

/-- every effect of a task preserves the invariant: it advances the task's pc from `k` to `k+1`, and the one
    threshold it crosses is matched by the wait-group (`k = 0`), the queue (`k = 1`) or the children (`k = 2`) -/
theorem inv_eff (hwf : WF ts) (hi : Inv ts s) {t k : Nat} (hp : pcOf s t = some k) (hk : k < 3)
    (hr : k < 2 → s.returned = false) : Inv ts (effSt ts s t k) := by
  have htl : t < ts.length := (hi.bound t k hp).2
  have hpc := pcOf_effSt (s := s) hi.len htl k
  have kid : ∀ {x}, k = 2 ∧ isKid ts t x = true → t < x ∧ pcOf s x = none := fun h =>
    ⟨hwf _ t (isKid_iff.1 h.2), hi.kid_none (isKid_iff.1 h.2) hp (by omega)⟩
  have hseq : (effSt ts s t k).order ++ (effSt ts s t k).queue =
      if k = 1 then (s.order ++ s.queue) ++ [t] else s.order ++ s.queue := by
    show s.order ++ (if k = 1 then s.queue ++ [t] else s.queue) = _
    split <;> simp
  refine
    { len := mkPc_length ..
      bound := ?_, pubd := ?_, nodup := ?_, held := hi.held
      heldLast := fun _ _ _ _ _ => trivial
      spawned := ?_, roots := ?_, wgEq := ?_, noCrash := hi.noCrash, errQ := hi.errQ
      ret := ?_, resp := ?_ }
  · intro x j h
    rw [hpc] at h
    split at h
    · rename_i hx; cases h; subst hx; exact ⟨by omega, htl⟩
    · split at h
      · rename_i hkid; cases h; exact ⟨by omega, parentOf_lt ts (isKid_iff.1 hkid.2)⟩
      · exact hi.bound x j h
  · intro x
    rw [hpc, hseq]
    by_cases hx : x = t
    · subst hx
      have := hi.pubd x
      rw [hp, ge_some] at this
      rw [if_pos rfl, ge_some]
      split
      · simp; omega
      · rw [← this]; omega
    · rw [if_neg hx]
      have hm : (x ∈ if k = 1 then (s.order ++ s.queue) ++ [t] else s.order ++ s.queue) ↔
          x ∈ s.order ++ s.queue := by split <;> simp [hx]
      rw [hm, ← hi.pubd x]
      split
      · rename_i hkid; rw [(kid hkid).2]; simp
      · rfl
  · rw [hseq]
    split
    · rename_i h1
      exact List.nodup_append.2 ⟨hi.nodup, by simp, fun a ha b hb hab =>
        hi.not_seq_of_pc hp (by omega) (by rw [List.mem_singleton.1 hb] at hab; exact hab ▸ ha)⟩
    · exact hi.nodup
  · intro c p hcp hc
    have hlt : p < c := hwf c p hcp
    rw [hpc, hpc]
    by_cases h2 : p = t
    · -- `c` is a child of `t`: started exactly when `t` reaches 3
      subst h2
      have hck := isKid_iff.2 hcp
      rw [if_neg (by omega), if_pos rfl, hi.kid_none hcp hp (by omega)]
      by_cases h : k = 2 <;> simp [h, hck] <;> omega
    · have hck : ¬ (k = 2 ∧ isKid ts t c = true) := fun h => h2 (by
        have := isKid_iff.1 h.2; rw [hcp] at this; exact (Option.some.inj this))
      rw [if_neg h2, if_neg hck]
      by_cases h1 : c = t
      · -- `t` itself: it was started, so its parent is at 3 and stays there
        subst h1
        have := (hi.spawned c p hcp hc).1 (by rw [hp]; simp)
        rw [if_pos rfl, if_neg (fun h => by have := (kid h).1; omega), this]
        simp
      · rw [if_neg h1]
        split
        · -- `p` is started only now, `c` is not
          rename_i hpk
          have := hi.spawned c p hcp hc
          rw [(kid hpk).2] at this
          exact ⟨fun h => (nomatch this.1 h), nofun⟩
        · exact hi.spawned c p hcp hc
  · intro c hc hpn
    rw [hpc]
    split
    · simp
    · split
      · simp
      · exact hi.roots c hc hpn
  · show (if k = 0 then s.wg + ((kids ts t).length : Int) else s.wg) = _
    rw [nCounted_eff hi hp hk, show nDone ts (effSt ts s t k) = nDone ts s from rfl, hi.wgEq]
    split <;> simp <;> omega
  · intro h c hc
    have hret : s.returned = true := h
    have hd := hi.ret hret
    by_cases hk2 : k < 2
    · rw [hr hk2] at hret; cases hret
    · exact hd c hc
  · show ParentFirst ts _
    rw [hseq]
    split
    · -- the parent of `t` has spawned `t`, hence was published before
      exact .snoc hi.resp fun p hcp =>
        (hi.pubd p).1 ⟨3, (hi.spawned t p hcp htl).1 (by rw [hp]; simp), by omega⟩
    · exact hi.resp

theorem inv_recv (hi : Inv ts s) {t : Nat} {q : List Nat} (hh : s.held = none) (hq : s.queue = t :: q) :
    Inv ts (recvSt s t q) := by
  have hseq : (recvSt s t q).order ++ (recvSt s t q).queue = s.order ++ s.queue := by
    simp [recvSt, hq]
  have hnd : doneT s t = false := by simp [doneT, hi.head_not_merged hq]
  refine { hi with pubd := ?_, nodup := ?_, held := ?_, heldLast := fun _ _ _ _ _ => trivial,
                     wgEq := ?_, ret := ?_, resp := ?_ }
  · intro x; rw [hseq]; exact hi.pubd x
  · rw [hseq]; exact hi.nodup
  · intro u hu; cases hu; exact List.mem_append_right _ (List.mem_singleton_self _)
  · have hd : nDone ts (recvSt s t q) = nDone ts s := by
      refine List.countP_congr fun c _ => ?_
      -- `t` is merged but held, everything else is as it was
      by_cases hct : c = t
      · subst hct; rw [hnd]; simp [doneT, recvSt]
      · have : ¬ t = c := fun h => hct h.symm
        simp [doneT, recvSt, hh, hct, this]
    show s.wg = (nCounted ts s : Int) - _
    rw [hd, hi.wgEq]
  · intro hr
    have := hi.ret hr t (hi.lt_of_seq (by simp [hq]))
    rw [hnd] at this; cases this
  · rw [hseq]; exact hi.resp

theorem inv_done (hi : Inv ts s) {t : Nat} (hh : s.held = some t) : Inv ts (doneSt ts s t) := by
  obtain ⟨k, hk, _, htl⟩ := hi.of_seq (List.mem_append_left _ (hi.held t hh))
  have hnd : doneT s t = false := by simp [doneT, hh]
  have hd : nDone ts (doneSt ts s t) = nDone ts s + 1 := by
    have : ∀ c, doneT (doneSt ts s t) c = (doneT s c || decide (c = t)) := by
      intro c
      by_cases hct : c = t
      · subst hct; simp [doneT, doneSt, hi.held c hh]
      · have : (t == c) = false := beq_eq_false_iff_ne.2 fun h => hct h.symm
        simp [doneT, doneSt, hh, hct, this]; rfl
    unfold nDone
    rw [List.countP_congr (fun c _ => by rw [this c]), countP_or_disjoint]
    · congr 1
      show List.count t (List.range ts.length) = 1
      rw [List.count_range, if_pos htl]
    · intro c _ ⟨h1, h2⟩
      rw [of_decide_eq_true h2, hnd] at h1; cases h1
  have hpos : 0 < (List.range ts.length).countP (pending ts s) :=
    List.countP_pos_iff.2 ⟨t, List.mem_range.2 htl, by
      rw [pending, hi.counted_of_started htl (by rw [hk]; simp), hnd]; rfl⟩
  refine { hi with held := fun _ h => (nomatch h), heldLast := fun _ _ _ _ _ => trivial,
                     wgEq := ?_, noCrash := ?_, ret := ?_ }
  · show s.wg - 1 = (nCounted ts s : Int) - _
    rw [hd, hi.wgEq]; omega
  · show (s.crashed || decide (s.wg - 1 < 0)) = false
    rw [hi.noCrash, hi.wg_eq_pending]
    simp; omega
  · intro hr
    have := hi.ret hr t htl
    rw [hnd] at this; cases this

theorem Inv.all_done_of_wg_zero (hwf : WF ts) (hi : Inv ts s) (hw : s.wg = 0) :
    ∀ t, t < ts.length → doneT s t = true := by
  have hz : ∀ c < ts.length, pending ts s c = false := fun c hc => by
    have := hi.wg_eq_pending
    rw [hw] at this
    simpa using List.countP_eq_zero.1 (by omega) c (List.mem_range.2 hc)
  intro t
  -- nothing is pending; so, parents first, every task is counted and hence done
  induction t using Nat.strongRecOn with
  | _ t ih =>
    intro htl
    have hc : counted ts s t = true := by
      cases hp : parentOf ts t with
      | none => exact counted_root hp
      | some p =>
        have hpl : p < t := hwf t p hp
        obtain ⟨k, hk, h2, _⟩ := hi.of_seq (List.mem_append_left _
          (doneT_iff.1 (ih p hpl (Nat.lt_trans hpl htl))).1)
        rw [counted_child hp, hk]; simp; omega
    have := hz t htl
    rw [pending, hc] at this
    simpa using this

theorem inv_ret (hwf : WF ts) (hi : Inv ts s) (hw : s.wg = 0) : Inv ts { s with returned := true } :=
  { hi with ret := fun _ => Inv.all_done_of_wg_zero (s := s) hwf hi hw }

end ExecM
