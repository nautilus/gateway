import GwModel.Exec.Main
import GwModel.Exec.Conf
namespace ExecM

variable {cfg : Cfg} {ts : Tasks}

/-- `Anc ts a c`: `a` is a strict ancestor of `c` in the task forest -/
inductive Anc (ts : Tasks) : Nat → Nat → Prop
  | base {p c} : parentOf ts c = some p → Anc ts p c
  | step {a p c} : parentOf ts c = some p → Anc ts a p → Anc ts a c

theorem anc_mem_closed {S : List Nat} (hcl : ∀ x ∈ S, ∀ p, parentOf ts x = some p → p ∈ S) :
    ∀ {a x}, Anc ts a x → x ∈ S → a ∈ S := by
  intro a x h
  induction h with
  | base hp => intro hx; exact hcl _ hx _ hp
  | step hp _ ih => intro hx; exact ih (hcl _ hx _ hp)

theorem ParentFirst.anc_before {l : List Nat} (hpf : ParentFirst ts l) {l₁ : List Nat} {c : Nat}
    {l₂ : List Nat} (h : l = l₁ ++ c :: l₂) {a : Nat} (ha : Anc ts a c) : a ∈ l₁ := by
  have hcl : ∀ x ∈ l₁, ∀ p, parentOf ts x = some p → p ∈ l₁ := by
    intro x hx p hp
    obtain ⟨m₁, m₂, rfl⟩ := List.append_of_mem hx
    have := hpf m₁ x (m₂ ++ c :: l₂) (by rw [h]; simp [List.append_assoc]) p hp
    exact List.mem_append.2 (Or.inl this)
  cases ha with
  | base hp => exact hpf l₁ c l₂ h _ hp
  | step hp hap => exact anc_mem_closed hcl hap (hpf l₁ c l₂ h _ hp)

theorem respectful_of_split {anc : Nat → Nat → Prop} :
    ∀ (l : List Nat), (∀ l₁ a l₂, l = l₁ ++ a :: l₂ → ∀ b ∈ l₂, ¬ anc b a) → Respectful anc l
  | [], _ => trivial
  | a :: l, h => by
    refine ⟨fun b hb => h [] a l rfl b hb, respectful_of_split l ?_⟩
    intro l₁ x l₂ hl b hb
    exact h (a :: l₁) x l₂ (by rw [hl]; rfl) b hb

theorem respectful_of_parentFirst {l : List Nat} (hnd : l.Nodup) (hpf : ParentFirst ts l) :
    Respectful (Anc ts) l := by
  apply respectful_of_split
  intro l₁ a l₂ h b hb hanc
  have hb1 : b ∈ l₁ := hpf.anc_before h hanc
  rw [h] at hnd
  have := (List.nodup_append.1 hnd).2.2 b hb1 b (List.mem_cons_of_mem _ hb)
  exact this rfl

/-- the set of merged tasks at return is exactly the forest -/
theorem order_complete (hs : cfg.Safe) (hwf : WF ts) {s : St} (hr : Reach cfg ts s)
    (hret : s.returned = true) : ∀ t, t ∈ s.order ↔ t < ts.length := by
  intro t
  have hi := inv_reach hs hwf hr
  constructor
  · exact fun h => hi.lt_of_seq (List.mem_append_left _ h)
  · intro h; exact (returns_after_all_merged hs hwf hr hret t h).1

/-- **C05 (abstract form).** Whatever the schedule, the accumulated response is the same:
    any two completed executions fold the same messages in ancestor-respecting orders. -/
theorem confluent_final {S : Type} (ins : S → Nat → S)
    (comm : ∀ s a b, ¬ Anc ts a b → ¬ Anc ts b a → ins (ins s a) b = ins (ins s b) a)
    (hs : cfg.Safe) (hwf : WF ts) {s₁ s₂ : St} (h₁ : Reach cfg ts s₁) (h₂ : Reach cfg ts s₂)
    (r₁ : s₁.returned = true) (r₂ : s₂.returned = true) (a0 : S) :
    s₁.order.foldl ins a0 = s₂.order.foldl ins a0 := by
  obtain ⟨nd₁, pf₁⟩ := order_respectful hs hwf h₁
  obtain ⟨nd₂, pf₂⟩ := order_respectful hs hwf h₂
  have hperm : s₁.order.Perm s₂.order :=
    (List.perm_ext_iff_of_nodup nd₁ nd₂).2 fun t => by
      rw [order_complete hs hwf h₁ r₁, order_complete hs hwf h₂ r₂]
  exact confluent ins (Anc ts) comm s₁.order s₂.order a0 hperm nd₁
    (respectful_of_parentFirst nd₁ pf₁) (respectful_of_parentFirst nd₂ pf₂)

#print axioms confluent_final
end ExecM
