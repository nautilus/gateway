/-! Folding a partial merge step over a list.  If the accumulator stands for the elements seen so far (`I acc seen`) in
    such a way that one more step succeeds exactly when the new element is `R`-related to every element seen, then the
    whole fold succeeds exactly when the list is pairwise `R`-related; and if `R` is symmetric, success does not depend on
    the order of the list. -/
namespace List

variable {α β : Type} {step : β → α → Option β} {R : α → α → Prop} {I : β → List α → Prop} {OK : α → Prop}

theorem foldlM_pairwise
    (hstep : ∀ {acc seen d}, I acc seen → seen.Pairwise R → OK d →
      ((∃ r, step acc d = some r) ↔ ∀ s ∈ seen, R s d) ∧ ∀ r, step acc d = some r → I r (seen ++ [d])) :
    ∀ (ds : List α) {acc : β} {seen : List α}, I acc seen → seen.Pairwise R → (∀ d ∈ ds, OK d) →
      ((∃ r, ds.foldlM step acc = some r) ↔ (seen ++ ds).Pairwise R) ∧
      ∀ r, ds.foldlM step acc = some r → I r (seen ++ ds)
  | [], acc, seen, hI, hseen, _ => by
    rw [append_nil]
    exact ⟨⟨fun _ => hseen, fun _ => ⟨acc, rfl⟩⟩, fun r h => Option.some.inj h ▸ hI⟩
  | d :: ds, acc, seen, hI, hseen, hok => by
    obtain ⟨hiff, hinv⟩ := hstep hI hseen (hok d mem_cons_self)
    rw [foldlM_cons]
    cases hm : step acc d with
    | none =>
      refine ⟨⟨fun ⟨_, h⟩ => (nomatch h), fun h => ?_⟩, fun _ h => (nomatch h)⟩
      obtain ⟨_, hr⟩ := hiff.2 fun s hs => (pairwise_append.1 h).2.2 s hs d mem_cons_self
      exact nomatch hm ▸ hr
    | some acc' =>
      have hseen' : (seen ++ [d]).Pairwise R :=
        pairwise_append.2 ⟨hseen, pairwise_singleton .., fun s hs x hx => eq_of_mem_singleton hx ▸ hiff.1 ⟨_, hm⟩ s hs⟩
      have ih := foldlM_pairwise hstep ds (hinv _ hm) hseen' fun x hx => hok x (mem_cons_of_mem _ hx)
      rwa [append_assoc, singleton_append] at ih

theorem isSome_perm_of_pairwise {f : List α → Option β} (hsymm : ∀ {a b}, R a b → R b a)
    (hchar : ∀ d ds, (∀ x ∈ d :: ds, OK x) → ((∃ r, f (d :: ds) = some r) ↔ (d :: ds).Pairwise R))
    {l₁ l₂ : List α} (hp : l₁.Perm l₂) (hok : ∀ x ∈ l₁, OK x) : (f l₁).isSome = (f l₂).isSome := by
  match l₁, l₂, hp, hok with
  | [], _, hp, _ => rw [hp.nil_eq]
  | _ :: _, [], hp, _ => exact absurd hp.eq_nil (cons_ne_nil _ _)
  | a :: as, b :: bs, hp, hok =>
    rw [Bool.eq_iff_iff, Option.isSome_iff_exists, Option.isSome_iff_exists, hchar a as hok,
      hchar b bs fun x hx => hok x (hp.mem_iff.2 hx), hp.pairwise_iff hsymm]

/-- of two equally long lists, one duplicate-free and contained in the other, each contains the other -/
theorem Nodup.subset_of_length_le {a b : List α} (ha : a.Nodup) (hsub : ∀ x ∈ a, x ∈ b)
    (hl : b.length ≤ a.length) : ∀ y ∈ b, y ∈ a := by
  classical
  intro y hy
  apply Classical.byContradiction
  intro hya
  have h1 := ha.length_le_of_subset (l₂ := b.erase y) fun x hx =>
    (mem_erase_of_ne fun (e : x = y) => hya (e ▸ hx)).2 (hsub x hx)
  have h2 := length_erase_of_mem hy
  have h3 := length_pos_of_mem hy
  omega

/-- two duplicate-free lists have the same elements iff they are equally long and one contains the other -/
theorem Nodup.same_mem_iff {a b : List α} (ha : a.Nodup) (hb : b.Nodup) :
    (∀ x, x ∈ a ↔ x ∈ b) ↔ a.length = b.length ∧ ∀ x ∈ a, x ∈ b :=
  ⟨fun h => ⟨((perm_ext_iff_of_nodup ha hb).2 h).length_eq, fun x => (h x).1⟩,
   fun ⟨hl, hsub⟩ x => ⟨hsub x, ha.subset_of_length_le hsub (Nat.le_of_eq hl.symm) x⟩⟩

/-- looking a key up in a list with distinct keys finds exactly the element that has it -/
theorem find?_key_eq_some_iff {κ : Type} [BEq κ] [LawfulBEq κ] {key : α → κ} {l : List α}
    (h : (l.map key).Nodup) {k : κ} {b : α} : l.find? (fun x => key x == k) = some b ↔ b ∈ l ∧ key b = k := by
  refine ⟨fun hf => ⟨mem_of_find?_eq_some hf, have := find?_some hf; eq_of_beq this⟩, ?_⟩
  rintro ⟨hb, rfl⟩
  induction l with
  | nil => cases hb
  | cons x xs ih =>
    rw [map_cons, nodup_cons] at h
    rw [find?_cons]
    rcases mem_cons.1 hb with rfl | hb
    · rw [beq_self_eq_true]
    · have hne : (key x == key b) = false := beq_eq_false_iff_ne.2 fun e => h.1 (e ▸ mem_map_of_mem hb)
      rw [hne]; exact ih h.2 hb

theorem Nodup.of_map_key {κ : Type} {key : α → κ} {l : List α} (h : (l.map key).Nodup) : l.Nodup :=
  Pairwise.of_map key (fun _ _ hne e => hne (e ▸ rfl)) h

end List
