/-! Model of how `gateway.New` (gateway.go) takes its options: every option writes one field of the gateway being
    built (`WithMiddlewares` adds to a list, the others overwrite), and only after ALL options have run does `New`
    hand the queryer factory and the location priorities to whatever planner is installed by then, and split the
    middlewares into the scrubber-first response list and the request list.

    Proved: what the built gateway ends up with is a function of, per kind of option, the options of that kind in
    their own order — the last planner, the last priority list, the last factory, all middlewares in order — so the
    order in which options of different kinds are written down is immaterial (`build_swap`).  In particular the
    priorities reach the planner whether `WithPlanner` stands before or after `WithLocationPriorities`, and two
    `WithMiddlewares` options amount to one with the lists joined.  Tied to gateway.go by the L2.new-options
    correspondence (random option lists through the real `New`, with planners, factories and middlewares that
    record what they are given). -/
namespace Nw

/-- a middleware: a response middleware or a request middleware (anything else is ignored by `New`), identified -/
structure MwRef where
  isResponse : Bool
  id : Nat
deriving Repr, DecidableEq, Inhabited

inductive Opt where
  | planner (id : Nat)                 -- `WithPlanner(p)`; planner 0 is the default `MinQueriesPlanner`
  | priorities (l : List String)       -- `WithLocationPriorities(l)`, `l` not nil
  | factory (f : Nat)                  -- `WithQueryerFactory(&f)`
  | middlewares (ms : List MwRef)      -- `WithMiddlewares(ms...)`
  | other                              -- any option that touches none of these fields
deriving Repr, Inhabited

/-- the fields of `Gateway` the options above write -/
structure G where
  planner : Nat := 0
  priorities : Option (List String) := none
  factory : Option Nat := none
  middlewares : List MwRef := []
deriving Repr

def apply (g : G) : Opt → G
  | .planner p => { g with planner := p }
  | .priorities l => { g with priorities := some l }
  | .factory f => { g with factory := some f }
  | .middlewares ms => { g with middlewares := g.middlewares ++ ms }
  | .other => g

/-- what the gateway is built with -/
structure Built where
  planner : Nat
  /-- what the installed planner's `WithLocationPriorities` / `WithQueryerFactory` was called with (if at all) -/
  toldPriorities : Option (List String)
  toldFactory : Option Nat
  /-- response middlewares after the built-in scrubber, and request middlewares, each in registration order -/
  response : List Nat
  request : List Nat
deriving Repr, DecidableEq

def finish (g : G) : Built :=
  { planner := g.planner, toldPriorities := g.priorities, toldFactory := g.factory,
    response := (g.middlewares.filter (·.isResponse)).map (·.id),
    request := (g.middlewares.filter (fun m => !m.isResponse)).map (·.id) }

/-- `New`: the options in the order given, then the hand-over -/
def build (opts : List Opt) : Built := finish (opts.foldl apply {})

/-! ### what each kind of option contributes -/
def plannerOf : Opt → Option Nat | .planner p => some p | _ => none
def prioritiesOf : Opt → Option (List String) | .priorities l => some l | _ => none
def factoryOf : Opt → Option Nat | .factory f => some f | _ => none
def mwsOf : Opt → List MwRef | .middlewares ms => ms | _ => []

/-- the last option of a kind (as seen through `f`), if any -/
def lastSome {α : Type} (f : Opt → Option α) : List Opt → Option α
  | [] => none
  | o :: os => (lastSome f os).or (f o)

/-- one option, field by field: each field is written by the options of its own kind only -/
theorem apply_eq (g : G) (o : Opt) :
    apply g o = { planner := (plannerOf o).getD g.planner, priorities := (prioritiesOf o).or g.priorities,
                  factory := (factoryOf o).or g.factory, middlewares := g.middlewares ++ mwsOf o } := by
  cases o <;> simp [apply, plannerOf, prioritiesOf, factoryOf, mwsOf]

theorem foldl_apply (opts : List Opt) (g : G) :
    opts.foldl apply g =
      { planner := (lastSome plannerOf opts).getD g.planner, priorities := (lastSome prioritiesOf opts).or g.priorities,
        factory := (lastSome factoryOf opts).or g.factory, middlewares := g.middlewares ++ opts.flatMap mwsOf } := by
  induction opts generalizing g with
  | nil => simp [lastSome]
  | cons o os ih =>
    rw [List.foldl_cons, ih, apply_eq]
    simp only [lastSome, Option.getD_or, Option.or_assoc, List.flatMap_cons, List.append_assoc]

/-- **the built gateway, kind by kind**: the last planner option (else the default), the last priority list and the
    last factory (handed to that planner, wherever its option stands), all middlewares of all `WithMiddlewares`
    options in order -/
theorem build_eq (opts : List Opt) :
    build opts =
      { planner := (lastSome plannerOf opts).getD 0,
        toldPriorities := lastSome prioritiesOf opts,
        toldFactory := lastSome factoryOf opts,
        response := ((opts.flatMap mwsOf).filter (·.isResponse)).map (·.id),
        request := ((opts.flatMap mwsOf).filter (fun m => !m.isResponse)).map (·.id) } := by
  simp [build, finish, foldl_apply]

theorem lastSome_none {α : Type} (f : Opt → Option α) : ∀ (opts : List Opt), (∀ o ∈ opts, f o = none) → lastSome f opts = none
  | [], _ => rfl
  | o :: os, h => by
    simp only [lastSome, lastSome_none f os (fun x hx => h x (List.mem_cons_of_mem _ hx)), h o (List.mem_cons_self ..)]
    rfl

/-- the kind of an option (which field it writes) -/
def kind : Opt → Nat
  | .planner _ => 0 | .priorities _ => 1 | .factory _ => 2 | .middlewares _ => 3 | .other => 4

/-- options of different kinds commute -/
theorem apply_comm (g : G) (a b : Opt) (h : kind a ≠ kind b) : apply (apply g a) b = apply (apply g b) a := by
  cases a <;> cases b <;> first | rfl | exact absurd rfl h

/-- **the order in which options of different kinds are given is immaterial** -/
theorem build_swap (pre post : List Opt) (a b : Opt) (h : kind a ≠ kind b) :
    build (pre ++ a :: b :: post) = build (pre ++ b :: a :: post) := by
  simp only [build, List.foldl_append, List.foldl_cons, apply_comm _ a b h]

/-- the priorities reach the planner whether its option comes first or last -/
theorem priorities_reach_the_planner (p : Nat) (l : List String) (rest : List Opt)
    (hp : ∀ o ∈ rest, plannerOf o = none ∧ prioritiesOf o = none) :
    let b1 := build (.planner p :: .priorities l :: rest)
    let b2 := build (.priorities l :: .planner p :: rest)
    b1 = b2 ∧ b1.planner = p ∧ b1.toldPriorities = some l := by
  have hswap := build_swap [] rest (.planner p) (.priorities l) (by simp [kind])
  simp only [List.nil_append] at hswap
  refine ⟨hswap, ?_, ?_⟩
  · rw [build_eq]
    simp [lastSome, plannerOf, lastSome_none plannerOf rest (fun o ho => (hp o ho).1)]
  · rw [build_eq]
    simp [lastSome, prioritiesOf, lastSome_none prioritiesOf rest (fun o ho => (hp o ho).2)]

/-- two `WithMiddlewares` options amount to one with the lists joined (the option adds) -/
theorem middlewares_add (pre post : List Opt) (ms1 ms2 : List MwRef) :
    build (pre ++ .middlewares ms1 :: .middlewares ms2 :: post) = build (pre ++ .middlewares (ms1 ++ ms2) :: post) := by
  simp only [build, List.foldl_append, List.foldl_cons, apply, List.append_assoc]

end Nw
