/-! Model of `FieldURLMap` (gateway.go): the table `Type.field ↦ locations` and its three operations — `RegisterURL`
    (append the locations to the key's list), `Concat` (append another table's lists key by key), `URLFor` (the list,
    or an error when the key was never registered).  A Go map is an association list here; its iteration order plays
    no part (every operation addresses one key).

    What the routing model `Route.urlsFor` states about the finished table is tied to the code by L1.routing; this file
    is about the operations themselves: what is registered is found, in the order of registration, whatever else is in
    the table and whatever the locations look like (one being a prefix or a substring of another, a long key). -/
namespace Um

abbrev Loc := String
abbrev Tbl := List (String × List Loc)

/-- `keyFor` -/
def keyFor (parent field : String) : String := parent ++ "." ++ field

def get (m : Tbl) (key : String) : Option (List Loc) := m.lookup key

def set (m : Tbl) (key : String) (v : List Loc) : Tbl :=
  match m with
  | [] => [(key, v)]
  | (k, w) :: rest => if k == key then (k, v) :: rest else (k, w) :: set rest key v

/-- `RegisterURL` for one location -/
def register1 (m : Tbl) (parent field : String) (loc : Loc) : Tbl :=
  let key := keyFor parent field
  match get m key with
  | none => set m key [loc]
  | some l => set m key (l ++ [loc])

/-- `RegisterURL(parent, field, locations...)` -/
def register (m : Tbl) (parent field : String) (locs : List Loc) : Tbl :=
  locs.foldl (fun acc l => register1 acc parent field l) m

/-- `URLFor` -/
def urlFor (m : Tbl) (parent field : String) : Except String (List Loc) :=
  match get m (keyFor parent field) with
  | some l => .ok l
  | none => .error ("Could not find location for " ++ keyFor parent field)

/-- `Concat` for one entry of the other table -/
def concat1 (m : Tbl) (key : String) (v : List Loc) : Tbl :=
  match get m key with
  | some prev => set m key (prev ++ v)
  | none => set m key v

def concat (m other : Tbl) : Tbl := other.foldl (fun acc kv => concat1 acc kv.1 kv.2) m

theorem get_cons (k : String) (w : List Loc) (rest : Tbl) (key' : String) :
    get ((k, w) :: rest) key' = if key' = k then some w else get rest key' := by
  unfold get
  rw [List.lookup_cons]
  by_cases h : key' = k
  · rw [if_pos h, beq_iff_eq.2 h]
  · rw [if_neg h, beq_eq_false_iff_ne.2 h]

/-- the table after `set` -/
theorem get_set (m : Tbl) (key key' : String) (v : List Loc) :
    get (set m key v) key' = if key' = key then some v else get m key' := by
  induction m with
  | nil => rw [set, get_cons]
  | cons kw rest ih =>
    obtain ⟨k, w⟩ := kw
    rw [set]
    split
    · rename_i h
      obtain rfl : k = key := by simpa using h
      rw [get_cons, get_cons]
      split <;> rfl
    · rename_i h
      have hk : ¬ k = key := by simpa using h
      rw [get_cons, get_cons, ih]
      by_cases h1 : key' = k
      · rw [if_pos h1, if_pos h1, if_neg (h1 ▸ hk)]
      · rw [if_neg h1, if_neg h1]

/-- both `RegisterURL` and `Concat` append at one key and leave the others alone -/
theorem get_concat1 (m : Tbl) (key key' : String) (v : List Loc) :
    get (concat1 m key v) key' = if key' = key then some ((get m key).getD [] ++ v) else get m key' := by
  unfold concat1
  cases hg : get m key <;> simp [get_set]

theorem register1_eq (m : Tbl) (parent field : String) (loc : Loc) :
    register1 m parent field loc = concat1 m (keyFor parent field) [loc] := by
  simp only [register1, concat1]
  cases get m (keyFor parent field) <;> rfl

theorem get_concat1_self (m : Tbl) (key : String) (v : List Loc) :
    get (concat1 m key v) key = some ((get m key).getD [] ++ v) := by
  rw [get_concat1, if_pos rfl]

theorem get_concat1_other (m : Tbl) (key key' : String) (v : List Loc) (hne : key' ≠ key) :
    get (concat1 m key v) key' = get m key' := by
  rw [get_concat1, if_neg hne]

/-- **what is registered is found**: after registering `loc` for `parent.field`, the lookup succeeds and `loc` is the
    last entry of what it returns — however long the key is and whatever `loc` looks like next to the locations that
    were there already -/
theorem urlFor_register1 (m : Tbl) (parent field : String) (loc : Loc) :
    ∃ before, urlFor (register1 m parent field loc) parent field = .ok (before ++ [loc]) ∧
      (get m (keyFor parent field) = some before ∨ (get m (keyFor parent field) = none ∧ before = [])) := by
  refine ⟨(get m (keyFor parent field)).getD [], by rw [urlFor, register1_eq, get_concat1_self], ?_⟩
  cases get m (keyFor parent field) <;> simp

/-- registering for one key leaves every other key as it was -/
theorem urlFor_register1_other (m : Tbl) (parent field parent' field' : String) (loc : Loc)
    (hne : keyFor parent' field' ≠ keyFor parent field) :
    urlFor (register1 m parent field loc) parent' field' = urlFor m parent' field' := by
  rw [urlFor, urlFor, register1_eq, get_concat1_other _ _ _ _ hne]

/-- **a location is listed once per registration, in the order of registration** — registering A then B for one
    field gives `[…, A, B]`, also when one is a substring of the other -/
theorem register_two (m : Tbl) (parent field : String) (a b : Loc) (h : get m (keyFor parent field) = none) :
    urlFor (register m parent field [a, b]) parent field = .ok [a, b] := by
  simp [register, urlFor, register1_eq, get_concat1_self, h]

/-- **`Concat` appends, key by key**: after `m.Concat(other)` a field's list is what `m` had followed by what `other`
    has — the services keep the order in which their tables were concatenated (`other`'s keys are distinct: it is a
    Go map) -/
theorem get_concat (other : Tbl) (hnd : (other.map (·.1)).Nodup) (m : Tbl) (key : String) :
    get (concat m other) key =
      match get m key, other.lookup key with
      | some a, some b => some (a ++ b)
      | some a, none => some a
      | none, some b => some b
      | none, none => none := by
  induction other generalizing m with
  | nil => simp [concat]; cases get m key <;> rfl
  | cons kv rest ih =>
    obtain ⟨k, v⟩ := kv
    simp only [List.map_cons, List.nodup_cons] at hnd
    obtain ⟨hk, hrest⟩ := hnd
    have hstep : concat m ((k, v) :: rest) = concat (concat1 m k v) rest := by simp [concat, List.foldl_cons]
    rw [hstep, ih hrest]
    by_cases hkey : key = k
    · subst hkey
      have hl : rest.lookup key = none := by
        rw [List.lookup_eq_none_iff]
        intro p hp
        simp only [bne_iff_ne, ne_eq]
        intro e
        apply hk
        exact List.mem_map.2 ⟨p, hp, e.symm⟩
      rw [get_concat1_self, hl]
      simp only [List.lookup_cons, beq_self_eq_true]
      cases get m key <;> simp
    · have hb : (key == k) = false := by simp only [beq_eq_false_iff_ne, ne_eq]; exact hkey
      rw [get_concat1_other m k key v hkey]
      simp only [List.lookup_cons, hb]

/-- a key that was never registered is an error, not an empty success -/
theorem urlFor_unregistered (parent field : String) : ∃ e, urlFor [] parent field = .error e := ⟨_, rfl⟩

example : (urlFor (register [] "User" "lastName" ["http://users.internal/graphql/v2", "http://users.internal/graphql"]) "User" "lastName").toOption =
    some ["http://users.internal/graphql/v2", "http://users.internal/graphql"] := by decide

end Um
